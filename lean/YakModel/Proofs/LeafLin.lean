import YakModel.Proofs.LeafHind
/-!
# `Leaf`: building the linearization (`Inv3`)

`Seg q` holds the operations linearized at instant `q`: the writer whose step produced the `q`-th
state, then the readers that observed that state, in hindsight. The linearization is
`Seg 0 ++ … ++ Seg now`. `Inv3` is `Timeline` (order, times, replay; nothing of the state) and
`ExtOk` (the pending writers already placed). A step is a `tick`, after an `insert` (a reader
returns) or a `complete` (a writer returns), with `keep`, `add` or `drop` on the pending records.
-/
namespace Yak.Proto.Leaf

def run (m : Spec) : List Rec → Spec
  | [] => m
  | r :: rs => run (specStep m r.op).1 rs

def ReplayTo (m : Spec) (l : List Rec) (m' : Spec) : Prop := replay m l ∧ run m l = m'

theorem replayTo_nil (m : Spec) : ReplayTo m [] m := ⟨trivial, rfl⟩

theorem replayTo_append {m m1 m2 : Spec} {l1 l2 : List Rec} (h1 : ReplayTo m l1 m1)
    (h2 : ReplayTo m1 l2 m2) : ReplayTo m (l1 ++ l2) m2 := by
  induction l1 generalizing m with
  | nil => obtain ⟨_, e⟩ := h1; simp only [run] at e; subst e; exact h2
  | cons r rs ih =>
    obtain ⟨⟨a, b⟩, e⟩ := h1
    have := ih (m := (specStep m r.op).1) ⟨b, e⟩
    exact ⟨⟨a, this.1⟩, this.2⟩

theorem replayTo_single {m m' : Spec} {r : Rec} (h : specStep m r.op = (m', r.res)) :
    ReplayTo m [r] m' := by
  refine ⟨⟨by rw [h], trivial⟩, ?_⟩
  simp only [run, h]

theorem replayTo_map {m m' : Spec} {l : List Rec} (f : Rec → Rec)
    (hf : ∀ x, (f x).op = x.op ∧ (f x).res = x.res) (h : ReplayTo m l m') :
    ReplayTo m (l.map f) m' := by
  induction l generalizing m with
  | nil => exact h
  | cons r rs ih =>
    obtain ⟨⟨a, b⟩, e⟩ := h
    have := ih (m := (specStep m r.op).1) ⟨b, e⟩
    simp only [List.map_cons, ReplayTo, replay, run, (hf r).1, (hf r).2]
    exact ⟨⟨a, this.1⟩, this.2⟩

def lin (Seg : Nat → List Rec) (n : Nat) : List Rec := (List.range (n + 1)).flatMap Seg

theorem lin_zero (Seg : Nat → List Rec) : lin Seg 0 = Seg 0 := by
  simp [lin]

theorem lin_succ (Seg : Nat → List Rec) (n : Nat) : lin Seg (n + 1) = lin Seg n ++ Seg (n + 1) := by
  simp only [lin]
  rw [List.range_succ, List.flatMap_append]
  simp

theorem lin_congr {Seg Seg' : Nat → List Rec} {n : Nat} (h : ∀ q, q ≤ n → Seg' q = Seg q) :
    lin Seg' n = lin Seg n := by
  induction n with
  | zero => rw [lin_zero, lin_zero, h 0 (Nat.le_refl _)]
  | succ n ih =>
    rw [lin_succ, lin_succ, h (n + 1) (Nat.le_refl _), ih (fun q hq => h q (by omega))]

theorem lin_map (Seg : Nat → List Rec) (f : Rec → Rec) (n : Nat) :
    lin (fun q => (Seg q).map f) n = (lin Seg n).map f := by
  simp only [lin, List.map_flatMap]

theorem lin_insert (Seg : Nat → List Rec) (r : Rec) {q0 n : Nat} (h : q0 ≤ n) :
    (lin (upd Seg q0 (Seg q0 ++ [r])) n).Perm (r :: lin Seg n) := by
  induction n with
  | zero =>
    have : q0 = 0 := by omega
    subst this
    rw [lin_zero, lin_zero, upd_same]
    exact List.perm_append_singleton _ _
  | succ n ih =>
    rw [lin_succ, lin_succ]
    by_cases hq : q0 ≤ n
    · rw [upd_other _ _ _ _ (by omega : n + 1 ≠ q0)]
      exact (ih hq).append_right _
    · have : q0 = n + 1 := by omega
      subst this
      rw [upd_same, lin_congr (Seg := Seg) (fun q hq' => upd_other _ _ _ _ (by omega))]
      rw [← List.append_assoc]
      exact List.perm_append_singleton _ _

theorem replay_lin {Seg : Nat → List Rec} {H : Nat → Spec} {m0 : Spec} {n : Nat}
    (hz : ReplayTo m0 (Seg 0) (H 0))
    (hs : ∀ q, q < n → ReplayTo (H q) (Seg (q + 1)) (H (q + 1))) : ReplayTo m0 (lin Seg n) (H n) := by
  induction n with
  | zero => rw [lin_zero]; exact hz
  | succ n ih =>
    rw [lin_succ]
    exact replayTo_append (ih (fun q hq => hs q (by omega))) (hs n (Nat.lt_succ_self _))

theorem pairwise_lin {Seg : Nat → List Rec} {R : Rec → Rec → Prop} {n : Nat}
    (h : ∀ q1 q2, q1 ≤ q2 → ∀ a ∈ Seg q1, ∀ b ∈ Seg q2, R a b) : (lin Seg n).Pairwise R := by
  rw [lin, List.pairwise_flatMap]
  exact ⟨fun q _ => List.pairwise_of_forall_mem_list (h q q (Nat.le_refl _)),
    List.pairwise_lt_range.imp fun hlt => h _ _ (Nat.le_of_lt hlt)⟩

def Pc.op? : Pc → Option OpKind
  | .idle => none
  | .start op | .haveV op _ | .haveP op _ _ | .looked op _ _ | .valid op _ _ | .gotVal op _ _
  | .locked op _ | .relooked op _ | .insFlag op | .keyed op _ | .valued op _ | .published op _
  | .cleared op _ | .done op _ => some op

/-- a writer past its linearization point (LP) that has not yet returned -/
def Pc.pastLP : Pc → Bool
  | .published _ _ | .cleared _ _ => true
  | .done op (.ok none) => !op.isGet
  | _ => false

theorem isPendingRec_iff (s : State) (r : Rec) :
    IsPendingRec s r ↔ r.t ∈ s.running ∧ r.ret = none ∧ r.inv = s.inv r.t ∧ (s.pc r.t).op? = some r.op := by
  unfold IsPendingRec
  cases s.pc r.t <;> simp [Pc.op?, eq_comm]

theorem pastLP_ne_idle {p : Pc} (h : p.pastLP = true) : p ≠ .idle := by
  intro e; rw [e] at h; cases h

structure Timeline (n : Nat) (done : List Rec) (H : Nat → Spec) (Seg : Nat → List Rec)
    (extra : List Rec) : Prop where
  perm : (lin Seg n).Perm (done ++ extra)
  seg_time : ∀ q, ∀ r ∈ Seg q, r.inv < q ∧ q ≤ n ∧ ∀ j, r.ret = some j → q ≤ j
  h0 : H 0 = fun _ => none
  seg_replay : ∀ q, q < n → ReplayTo (H q) (Seg (q + 1)) (H (q + 1))

def Effected (s : State) (r : Rec) : Prop :=
  IsPendingRec s r ∧ (s.pc r.t).pastLP = true ∧ r.res = .ok none

/-- one record for each pending writer past its LP, and nothing else -/
structure ExtOk (s : State) (extra : List Rec) : Prop where
  pend : ∀ r ∈ extra, Effected s r
  nodup : (extra.map (·.t)).Nodup
  cover : ∀ t, (s.pc t).pastLP = true → ∃ r ∈ extra, r.t = t

/-- `Timeline` and `ExtOk` together, written out -/
structure Inv3 (s : State) (H : Nat → Spec) (Seg : Nat → List Rec) (extra : List Rec) : Prop where
  perm : (lin Seg s.now).Perm (completedOf s ++ extra)
  ext_pend : ∀ r ∈ extra, IsPendingRec s r ∧ (s.pc r.t).pastLP = true ∧ r.res = .ok none
  ext_nodup : (extra.map (·.t)).Nodup
  ext_cover : ∀ t, (s.pc t).pastLP = true → ∃ r ∈ extra, r.t = t
  seg_time : ∀ q, ∀ r ∈ Seg q, r.inv < q ∧ q ≤ s.now ∧ ∀ j, r.ret = some j → q ≤ j
  h0 : H 0 = fun _ => none
  seg_replay : ∀ q, q < s.now → ReplayTo (H q) (Seg (q + 1)) (H (q + 1))

theorem inv3_iff {s H Seg extra} :
    Inv3 s H Seg extra ↔ Timeline s.now (completedOf s) H Seg extra ∧ ExtOk s extra :=
  ⟨fun K => ⟨⟨K.perm, K.seg_time, K.h0, K.seg_replay⟩, ⟨K.ext_pend, K.ext_nodup, K.ext_cover⟩⟩,
    fun ⟨T, E⟩ => ⟨T.perm, E.pend, E.nodup, E.cover, T.seg_time, T.h0, T.seg_replay⟩⟩

theorem inv3_init : Inv3 init (fun _ _ => none) (fun _ => []) [] := by
  constructor
  · simp [lin, completedOf, init]
  · intro r h; cases h
  · exact List.nodup_nil
  · intro t h; simp [init, Pc.pastLP] at h
  · intro q r h; cases h
  · rfl
  · intro q h; simp [init] at h

theorem Inv3.linearizable {s H Seg extra} (K : Inv3 s H Seg extra) : Linearizable s := by
  refine ⟨extra, lin Seg s.now, fun r hr => (K.ext_pend r hr).1, K.ext_nodup, K.perm, ?_, ?_⟩
  · apply pairwise_lin
    -- real-time order: `a` in segment `q1` was invoked before `q1 ≤ q2`, and `b` in segment `q2`
    -- returns at `q2` or later, so `b` cannot precede `a`
    intro q1 q2 h12 a ha b hb
    have h1 := K.seg_time q1 a ha
    have h2 := K.seg_time q2 b hb
    unfold precedes
    cases hr : b.ret with
    | none => exact fun h => h
    | some j =>
      have := h2.2.2 j hr
      show ¬ (j < a.inv)
      omega
  · have hz : Seg 0 = [] := List.eq_nil_iff_forall_not_mem.mpr fun r hr => by
      have := (K.seg_time 0 r hr).1
      omega
    have := replay_lin (Seg := Seg) (H := H) (m0 := fun _ => none) (n := s.now)
      (by rw [hz, K.h0]; exact replayTo_nil _) K.seg_replay
    exact this.1

def Rec.returnAt (r0 : Rec) (j : Nat) (x : Rec) : Rec := if x = r0 then { r0 with ret := some j } else x

theorem Rec.returnAt_self (r0 : Rec) (j : Nat) : r0.returnAt j r0 = { r0 with ret := some j } := if_pos rfl

theorem Rec.returnAt_ne {r0 x : Rec} {j : Nat} (h : x ≠ r0) : r0.returnAt j x = x := if_neg h

theorem Rec.map_returnAt {r0 : Rec} {j : Nat} {l : List Rec} (h : r0 ∉ l) : l.map (r0.returnAt j) = l :=
  (List.map_congr_left fun x hx => Rec.returnAt_ne fun e : x = r0 => h (e ▸ hx)).trans (List.map_id' l)

theorem Rec.returnAt_pres (r0 : Rec) (j : Nat) (x : Rec) :
    (r0.returnAt j x).op = x.op ∧ (r0.returnAt j x).res = x.res := by
  by_cases e : x = r0
  · subst e; rw [Rec.returnAt_self]; exact ⟨rfl, rfl⟩
  · rw [Rec.returnAt_ne e]; exact ⟨rfl, rfl⟩

namespace Timeline
variable {n : Nat} {done extra : List Rec} {H : Nat → Spec} {Seg : Nat → List Rec}

/-- the pending records `w` take effect at the new instant -/
theorem tick (T : Timeline n done H Seg extra) (w : List Rec) {m : Spec}
    (hw : ∀ r ∈ w, r.inv < n + 1 ∧ r.ret = none) (hm : ReplayTo (H n) w m) :
    Timeline (n + 1) done (upd H (n + 1) m) (upd Seg (n + 1) w) (w ++ extra) where
  perm := by
    rw [lin_succ, upd_same, lin_congr (Seg := Seg) (fun q hq => upd_other _ _ _ _ (by omega))]
    refine (T.perm.append_right w).trans ?_
    rw [List.append_assoc]
    exact List.perm_append_comm.append_left done
  seg_time := by
    intro q r hr
    by_cases e : q = n + 1
    · subst e
      rw [upd_same] at hr
      exact ⟨(hw r hr).1, Nat.le_refl _, fun j h => by rw [(hw r hr).2] at h; cases h⟩
    · rw [upd_other _ _ _ _ e] at hr
      obtain ⟨h1, h2, h3⟩ := T.seg_time q r hr
      exact ⟨h1, by omega, h3⟩
  h0 := by rw [upd_other _ _ _ _ (by omega : (0 : Nat) ≠ n + 1)]; exact T.h0
  seg_replay := by
    intro q hq
    rw [upd_other _ _ _ _ (by omega : q ≠ n + 1)]
    by_cases h : q < n
    · rw [upd_other _ _ _ _ (by omega : q + 1 ≠ n + 1), upd_other _ _ _ _ (by omega : q + 1 ≠ n + 1)]
      exact T.seg_replay q h
    · have : q = n := by omega
      subst this
      rw [upd_same, upd_same]; exact hm

/-- a returning reader goes to an instant `q0` of its call at which its answer was right -/
theorem insert (T : Timeline n done H Seg extra) (r : Rec) {q0 j : Nat} (hr : r.ret = some j)
    (h1 : r.inv < q0) (h2 : q0 ≤ n) (h3 : n ≤ j) (hspec : specStep (H q0) r.op = (H q0, r.res)) :
    Timeline n (done ++ [r]) H (upd Seg q0 (Seg q0 ++ [r])) extra where
  perm := by
    refine (lin_insert Seg _ h2).trans ((List.Perm.cons _ T.perm).trans ?_)
    rw [List.append_assoc]
    exact List.perm_middle.symm
  seg_time := by
    intro q x hx
    by_cases e : q = q0
    · subst e
      rw [upd_same] at hx
      rcases List.mem_append.mp hx with hx | hx
      · exact T.seg_time q x hx
      · rw [List.mem_singleton] at hx
        subst hx
        exact ⟨h1, h2, fun j' hj => by rw [hr] at hj; cases hj; omega⟩
    · rw [upd_other _ _ _ _ e] at hx
      exact T.seg_time q x hx
  h0 := T.h0
  seg_replay := by
    intro q hq
    by_cases e : q + 1 = q0
    · subst e
      rw [upd_same]
      exact replayTo_append (T.seg_replay q hq) (replayTo_single hspec)
    · rw [upd_other _ _ _ _ e]
      exact T.seg_replay q hq

/-- a returning writer's record moves from `extra` to `done`, in place -/
theorem complete (T : Timeline n done H Seg extra) {r0 : Rec} (hr0 : r0 ∈ extra) (hd : r0 ∉ done)
    (hnd : extra.Nodup) {j : Nat} (hj : n ≤ j) :
    Timeline n (done ++ [{ r0 with ret := some j }]) H (fun q => (Seg q).map (r0.returnAt j))
      (extra.erase r0) := by
  constructor
  · rw [lin_map, ← r0.returnAt_self j]
    refine (T.perm.map (r0.returnAt j)).trans ?_
    rw [List.map_append, Rec.map_returnAt hd, List.append_assoc]
    refine List.Perm.append_left _ (((List.perm_cons_erase hr0).map _).trans ?_)
    rw [List.map_cons, Rec.map_returnAt hnd.not_mem_erase]
    exact .refl _
  · intro q x hx
    obtain ⟨y, hy, ey⟩ := List.mem_map.mp hx
    obtain ⟨a, b, c⟩ := T.seg_time q y hy
    by_cases e : y = r0
    · rw [e, r0.returnAt_self] at ey
      subst ey
      rw [e] at a
      exact ⟨a, b, fun j' hj => by cases hj; omega⟩
    · rw [Rec.returnAt_ne e] at ey
      subst ey
      exact ⟨a, b, c⟩
  · exact T.h0
  · exact fun q hq => replayTo_map _ (r0.returnAt_pres j) (T.seg_replay q hq)

end Timeline

theorem completedOf_ret {s s' : State} {t op res i j} (h : s'.hist = s.hist ++ [(t, op, res, i, j)]) :
    completedOf s' = completedOf s ++ [⟨t, op, res, i, some j⟩] := by
  simp only [completedOf, h, List.map_append, List.map_cons, List.map_nil]

theorem mem_completedOf_ret {s : State} {r : Rec} (h : r ∈ completedOf s) : r.ret ≠ none := by
  simp only [completedOf, List.mem_map] at h
  obtain ⟨⟨t, op, res, i, j⟩, _, e⟩ := h
  rw [← e]; simp

namespace ExtOk
variable {c : Cfg} {s s' : State} {t : Nat} {extra : List Rec}

theorem pend_step (h : Step c s t s') (I' : Inv1 c s') {r : Rec}
    (hr : Effected s r) (hpl : (s'.pc r.t).pastLP = true) (hop : (s'.pc r.t).op? = (s.pc r.t).op?) :
    Effected s' r := by
  obtain ⟨h1, h2, h3⟩ := hr
  rw [isPendingRec_iff] at h1
  rw [Effected, isPendingRec_iff]
  exact ⟨⟨(I'.live _ (pastLP_ne_idle hpl)).1, h1.2.1, by rw [h.invoked_eq _ (pastLP_ne_idle h2)]; exact h1.2.2.1,
    by rw [hop]; exact h1.2.2.2⟩, hpl, h3⟩

theorem pend_other (h : Step c s t s') (I' : Inv1 c s') {r : Rec}
    (hr : Effected s r) (e : r.t ≠ t) : Effected s' r :=
  pend_step h I' hr (by rw [h.pc_other _ e]; exact hr.2.1) (by rw [h.pc_other _ e])

theorem keep (E : ExtOk s extra) (h : Step c s t s') (I' : Inv1 c s')
    (hpl : (s'.pc t).pastLP = (s.pc t).pastLP)
    (hop : (s.pc t).pastLP = true → (s'.pc t).op? = (s.pc t).op?) : ExtOk s' extra := by
  have hpl' : ∀ t', (s'.pc t').pastLP = (s.pc t').pastLP := by
    intro t'; by_cases e : t' = t
    · rw [e]; exact hpl
    · rw [h.pc_other t' e]
  refine ⟨fun r hr => ?_, E.nodup, fun t' ht' => E.cover t' (hpl' t' ▸ ht')⟩
  have hr := E.pend r hr
  by_cases e : r.t = t
  · exact pend_step h I' hr (by rw [hpl']; exact hr.2.1) (by rw [e]; exact hop (e ▸ hr.2.1))
  · exact pend_other h I' hr e

theorem nodup_recs (E : ExtOk s extra) : extra.Nodup :=
  List.Pairwise.of_map _ (fun _ _ hab e => hab (e ▸ rfl)) E.nodup

theorem not_mem (E : ExtOk s extra) (hold : (s.pc t).pastLP = false) : ∀ r ∈ extra, r.t ≠ t := by
  intro r hr e
  have := (E.pend r hr).2.1
  rw [e, hold] at this; cases this

theorem add (E : ExtOk s extra) (h : Step c s t s') (I' : Inv1 c s') {op : OpKind}
    (hold : (s.pc t).pastLP = false) (hnew : (s'.pc t).pastLP = true) (hop : (s'.pc t).op? = some op)
    (hne : s.pc t ≠ .idle) : ExtOk s' (⟨t, op, .ok none, s.inv t, none⟩ :: extra) := by
  refine ⟨fun r hr => ?_, ?_, fun t' ht' => ?_⟩
  · rcases List.mem_cons.mp hr with hr | hr
    · subst hr
      refine ⟨?_, hnew, rfl⟩
      rw [isPendingRec_iff]
      exact ⟨(I'.live _ (pastLP_ne_idle hnew)).1, rfl, (h.invoked_eq _ hne).symm, hop⟩
    · exact pend_other h I' (E.pend r hr) (E.not_mem hold r hr)
  · rw [List.map_cons, List.nodup_cons]
    refine ⟨fun hm => ?_, E.nodup⟩
    obtain ⟨r, hr, e⟩ := List.mem_map.mp hm
    exact E.not_mem hold r hr e
  · by_cases e : t' = t
    · exact ⟨_, List.mem_cons_self .., e.symm⟩
    · rw [h.pc_other _ e] at ht'
      obtain ⟨r, hr, e'⟩ := E.cover t' ht'
      exact ⟨r, List.mem_cons_of_mem _ hr, e'⟩

theorem drop (E : ExtOk s extra) (h : Step c s t s') (I' : Inv1 c s') {r0 : Rec} (hr0 : r0 ∈ extra)
    (ht : r0.t = t) (hnew : s'.pc t = .idle) : ExtOk s' (extra.erase r0) := by
  -- `t` is the thread of `r0` and of no other record
  have nd := ((List.perm_cons_erase hr0).map (·.t)).nodup_iff.mp E.nodup
  rw [List.map_cons, List.nodup_cons, ht] at nd
  refine ⟨fun x hx => pend_other h I' (E.pend x (List.mem_of_mem_erase hx))
    fun e => nd.1 (e ▸ List.mem_map_of_mem (f := (·.t)) hx), nd.2, fun t' ht' => ?_⟩
  by_cases e : t' = t
  · rw [e, hnew] at ht'; cases ht'
  · rw [h.pc_other _ e] at ht'
    obtain ⟨x, hx, ex⟩ := E.cover t' ht'
    exact ⟨x, (List.mem_erase_of_ne fun e' => e (by rw [← ex, e', ht])).mpr hx, ex⟩

end ExtOk

theorem spec_update {s : State} {sl k v} (hl : lookupIn s.keys s.perm k = some sl) :
    specStep (abs s) (.put k v false) = (absOf s.keys s.perm (upd s.vals sl (some v)), .ok none) := by
  rw [absOf_stVal hl, ← abs_eq]
  simp [specStep]

theorem spec_insert {s : State} {sl k v u} (hks : s.keys sl = some k)
    (hn : lookupIn s.keys s.perm k = none) (hvs : s.vals sl = some v) :
    specStep (abs s) (.put k v u) = (absOf s.keys (insertSorted s.keys s.perm sl k) s.vals, .ok none) := by
  rw [absOf_insert hks hn hvs, ← abs_eq]
  have : abs s k = none := by simp only [abs]; rw [hn]
  simp [specStep, this]

theorem spec_clear {s : State} {sl k} (hl : lookupIn s.keys s.perm k = some sl)
    (hsome : (abs s k).isSome = true) :
    specStep (abs s) (.remove k) = (absOf s.keys s.perm (upd s.vals sl none), .ok none) := by
  rw [absOf_stVal hl, ← abs_eq]
  simp [specStep, hsome]

theorem Local.pastLP {c s p p'} (h : Local c s p p') : p.pastLP = false ∧ p'.pastLP = false := by
  cases h <;> try exact ⟨rfl, rfl⟩
  case getOk x _ _ => cases x <;> exact ⟨rfl, rfl⟩

theorem inv3_neutral {c s s' t H Seg extra p p'} (K : Inv3 s H Seg extra) (hH : H s.now = abs s)
    (I' : Inv1 c s') (h : Step c s t s') (habs : abs s' = abs s) (hhist : s'.hist = s.hist)
    (hpc : s.pc t = p) (hpc' : s'.pc t = p') (hpl : p'.pastLP = p.pastLP)
    (hop : p.pastLP = true → p'.op? = p.op?) :
    ∃ Seg' extra', Inv3 s' (upd H s'.now (abs s')) Seg' extra' := by
  have T' := (inv3_iff.mp K).1.tick [] nofun (replayTo_nil _)
  rw [hH, ← habs, ← h.now_eq, show completedOf s = completedOf s' by simp only [completedOf, hhist]] at T'
  exact ⟨_, _, inv3_iff.mpr ⟨T', (inv3_iff.mp K).2.keep h I' (by rw [hpc, hpc']; exact hpl) (by rw [hpc, hpc']; exact hop)⟩⟩

theorem inv3_writer {c s s' t H Seg extra p p'} (K : Inv3 s H Seg extra) (hH : H s.now = abs s)
    (I : Inv1 c s) (I' : Inv1 c s') (h : Step c s t s') (op : OpKind) (hhist : s'.hist = s.hist)
    (hpc : s.pc t = p) (hpc' : s'.pc t = p') (hne : p ≠ .idle) (hold : p.pastLP = false)
    (hnew : p'.pastLP = true) (hop : p'.op? = some op) (hspec : specStep (abs s) op = (abs s', .ok none)) :
    ∃ Seg' extra', Inv3 s' (upd H s'.now (abs s')) Seg' extra' := by
  have T' := (inv3_iff.mp K).1.tick [⟨t, op, .ok none, s.inv t, none⟩]
    (fun r hr => by
      rw [List.mem_singleton.mp hr]; exact ⟨Nat.lt_succ_of_lt (I.live t (hpc ▸ hne)).2, rfl⟩)
    (by rw [hH]; exact replayTo_single hspec)
  rw [← h.now_eq, show completedOf s = completedOf s' by simp only [completedOf, hhist]] at T'
  exact ⟨_, _, inv3_iff.mpr ⟨T', (inv3_iff.mp K).2.add h I' (hpc ▸ hold) (hpc' ▸ hnew) (hpc' ▸ hop) (hpc ▸ hne)⟩⟩

theorem inv3_ret {c s s' t H Seg extra op r} (hfix : c.fixD1 = true) (I : Inv1 c s) (I' : Inv1 c s')
    (J : Inv2 s H) (K : Inv3 s H Seg extra) (h : Step c s t s') (hpc : s.pc t = .done op r)
    (hidle : s'.pc t = .idle) (hhist : s'.hist = s.hist ++ [(t, op, r, s.inv t, s.now)])
    (habs : abs s = abs s') : ∃ Seg' extra', Inv3 s' (upd H s'.now (abs s')) Seg' extra' := by
  have hH := J.h_now
  obtain ⟨T, E⟩ := inv3_iff.mp K
  have hok := I.pc_ok t
  have hd := J.pc2 t
  have hc : completedOf s ++ [⟨t, op, r, s.inv t, some s.now⟩] = completedOf s' :=
    (completedOf_ret hhist).symm
  rw [hpc] at hok hd
  simp only [Pc2, PcOk] at hok hd
  by_cases hr : r = .ok none
  · subst hr
    have hp : (Pc.done op (.ok none)).pastLP = true := by
      cases hg : op.isGet with
      | false => simp [Pc.pastLP, hg]
      | true => have := hok none rfl; simp [hg, hfix] at this
    -- a writer: its record is in the timeline since its LP
    obtain ⟨r0, hr0, et⟩ := E.cover t (by rw [hpc]; exact hp)
    obtain ⟨hp0, _, hres0⟩ := E.pend r0 hr0
    rw [isPendingRec_iff, et, hpc] at hp0
    obtain ⟨_, hret0, hinv0, hop0⟩ := hp0
    have er0 : r0 = ⟨t, op, .ok none, s.inv t, none⟩ := by
      cases r0; simp only at et hret0 hinv0 hop0 hres0; simp [et, hret0, hinv0, Option.some.inj hop0, hres0]
    subst er0
    have T' := (T.complete hr0 (fun h => mem_completedOf_ret h rfl) E.nodup_recs
      (Nat.le_refl s.now)).tick [] nofun (replayTo_nil _)
    rw [hH, habs, ← h.now_eq, hc] at T'
    exact ⟨_, _, inv3_iff.mpr ⟨T', E.drop h I' hr0 et hidle⟩⟩
  · have hp' : (s.pc t).pastLP = false := by
      rw [hpc]; cases r <;> try rfl
      case ok x => cases x with
        | none => exact absurd rfl hr
        | some _ => rfl
    -- a reader: right at some instant `q0` of the call
    obtain ⟨q0, h1, h2, h3⟩ := hd hr
    have T' := (T.insert ⟨t, op, r, s.inv t, some s.now⟩ rfl h1 h2 (Nat.le_refl _) h3).tick [] nofun
      (replayTo_nil _)
    rw [hH, habs, ← h.now_eq, hc] at T'
    exact ⟨_, _, inv3_iff.mpr ⟨T', E.keep h I' (by rw [hidle, hp']; rfl) (by rw [hp']; nofun)⟩⟩

theorem inv3_step {c : Cfg} {s s' : State} {t : Nat} {H Seg extra} (hfix : c.fixD1 = true)
    (I : Inv1 c s) (I' : Inv1 c s') (J : Inv2 s H) (K : Inv3 s H Seg extra) (h : Step c s t s') :
    ∃ Seg' extra', Inv3 s' (upd H s'.now (abs s')) Seg' extra' := by
  -- `neutral`: `abs` same, `hist` same, pc before, after, `pastLP` kept, operation kept past the LP.
  -- `writer op`: `hist` same, pc before, after, not idle, not past the LP, then past it, `op`, `specStep`.
  have neutral := fun {p p'} => inv3_neutral (p := p) (p' := p') K J.h_now I' h
  have writer := fun {p p'} => inv3_writer (p := p) (p' := p') K J.h_now I I' h
  have hok := I.pc_ok t
  cases h
  case invoke op hpc => exact neutral rfl rfl hpc (upd_same _ _ _) rfl nofun
  case loc hpc h =>
    exact neutral rfl rfl hpc (upd_same _ _ _) (h.pastLP.2.trans h.pastLP.1.symm) (by rw [h.pastLP.1]; nofun)
  case lock hpc => exact neutral rfl rfl hpc (upd_same _ _ _) rfl nofun
  case ret op r hpc => exact inv3_ret hfix I I' J K (.ret op r hpc) hpc (upd_same _ _ _) rfl rfl
  case crit hpc h =>
    rw [hpc] at hok
    cases h
    case stValUpd k v sl =>
      exact writer (.put k v false) rfl hpc (upd_same _ _ _) nofun rfl rfl rfl (spec_update hok.2.symm)
    case stPermIns k v u sl =>
      obtain ⟨_, hn, _, hk, hv⟩ := hok
      exact writer (.put k v u) rfl hpc (upd_same _ _ _) nofun rfl rfl rfl
        (spec_insert hk hn (hv k v u rfl))
    case clearVal k sl =>
      exact writer (.remove k) rfl hpc (upd_same _ _ _) nofun rfl rfl rfl
        (spec_clear hok.2.symm (I.relooked_bound hpc))
    case stKey k v u sl hfree =>
      exact neutral (absOf_congr (upd_of_not_mem (freeSlot_not_mem hfree)) fun _ _ => rfl) rfl hpc
        (upd_same _ _ _) rfl nofun
    case stValIns k v u sl =>
      exact neutral (absOf_congr (fun _ _ => rfl) (upd_of_not_mem hok.2.2.1)) rfl hpc (upd_same _ _ _) rfl nofun
    case stPermRem k sl =>
      exact neutral (absOf_filter I.keys_inj hok.2.1 hok.2.2.1 hok.2.2.2) rfl hpc (upd_same _ _ _)
        rfl (fun _ => rfl)
    case unlockPub op r =>
      exact neutral rfl rfl hpc (upd_same _ _ _) (by rw [hok.1]; simp [Pc.pastLP, hok.2]) (fun _ => rfl)
    -- no store to a cell or the permutation; `t` not past its LP before or after
    case relook | setIns | unlockRemMiss | unlockRetry =>
      exact neutral rfl rfl hpc (upd_same _ _ _) rfl nofun
end Yak.Proto.Leaf
