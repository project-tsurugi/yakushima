import YakModel.Proofs.ViewOps
/-!
# `insertInto` on one layer: the new chain, its well-formedness, its entries
-/
namespace Yak.Tree
open Yak

/-- the chain `insertInto` writes back (same code, on the chain alone) -/
def insLeaves (leaves : List Leaf) (k : KT) (e : Ent) : List Leaf :=
  let i := route k leaves
  let leaf := leaves.getD i emptyLeaf
  let rank := rankIfInsert k (leafKeys leaf)
  if leaf.ents.length < Yak.Const.keySliceLength then
    leaves.set i { leaf with ents := insertIdx' leaf.ents rank e, vins := leaf.vins + 1, deleted := false }
  else
    let rem := Yak.Const.borderRemaining
    let lo := leaf.ents.take rem
    let hi := leaf.ents.drop rem
    let first : KT := (hi.headD default).kt
    let lower := borderSplitLower k first rank rem
    let lo' := if lower then insertIdx' lo rank e else lo
    let hi' := if lower then hi else insertIdx' hi (rank - rem) e
    leaves.take i ++ [{ leaf with ents := lo', vins := leaf.vins + 1, vsplit := leaf.vsplit + 1, deleted := false },
      ⟨some first, leaf.vins + 1, leaf.vsplit + 1, false, hi'⟩] ++ leaves.drop (i + 1)

theorem insertInto_eq (t : Tree) (L : Layer) (rest : Key) (v : Val) :
    insertInto t L (route (KT.ofKey rest) L.leaves) rest v =
      { tree := setLayer t { L with leaves := insLeaves L.leaves (KT.ofKey rest) (entOf rest v) } ++
          subOf L.pfx rest v,
        status := .OK,
        modified := some (L.pfx, route (KT.ofKey rest) L.leaves),
        created :=
          if (L.leaves.getD (route (KT.ofKey rest) L.leaves) emptyLeaf).ents.length <
              Yak.Const.keySliceLength then none
          else some (L.pfx, route (KT.ofKey rest) L.leaves + 1) } := by
  unfold insertInto insLeaves entOf subOf
  dsimp only
  split <;> rfl

-- below, 15 is `Const.keySliceLength` and 8 is `Const.borderRemaining`
theorem insLeaves_lt {leaves pre post : List Leaf} {leaf : Leaf} {k : KT} (e : Ent)
    (hr : Routed leaves k pre leaf post) (hlt : leaf.ents.length < 15) :
    insLeaves leaves k e = pre ++ { leaf with
      ents := insertIdx' leaf.ents (rankIfInsert k (leafKeys leaf)) e,
      vins := leaf.vins + 1, deleted := false } :: post := by
  unfold insLeaves
  simp only [hr.getD]
  rw [if_pos (by simpa [Yak.Const.keySliceLength] using hlt), hr.set]

theorem insLeaves_ge {leaves pre post : List Leaf} {leaf : Leaf} {k : KT} (e : Ent)
    (hr : Routed leaves k pre leaf post) (hge : ¬ leaf.ents.length < 15) :
    insLeaves leaves k e = pre ++
      { leaf with
        ents := (if borderSplitLower k ((leaf.ents.drop 8).headD default).kt
            (rankIfInsert k (leafKeys leaf)) 8 then
          insertIdx' (leaf.ents.take 8) (rankIfInsert k (leafKeys leaf)) e else leaf.ents.take 8),
        vins := leaf.vins + 1, vsplit := leaf.vsplit + 1, deleted := false } ::
      ⟨some ((leaf.ents.drop 8).headD default).kt, leaf.vins + 1, leaf.vsplit + 1, false,
        (if borderSplitLower k ((leaf.ents.drop 8).headD default).kt
            (rankIfInsert k (leafKeys leaf)) 8 then
          leaf.ents.drop 8 else insertIdx' (leaf.ents.drop 8) (rankIfInsert k (leafKeys leaf) - 8) e)⟩ ::
      post := by
  unfold insLeaves
  simp only [hr.getD]
  rw [if_neg (by simpa [Yak.Const.keySliceLength] using hge), hr.take, hr.drop]
  simp [Yak.Const.borderRemaining]

theorem insLeaves_spec {leaves : List Leaf} (hc : LayerCore leaves) {r : Bool} (hE : EmptOK r leaves)
    {e : Ent} (hw : e.kt.WF) (hv : e.val = none ↔ e.kt.len = 9)
    (hno : ∀ x ∈ layerEnts leaves, x.kt ≠ e.kt) :
    LayerCore (insLeaves leaves e.kt e) ∧ EmptOK r (insLeaves leaves e.kt e) ∧
    (∀ x, x ∈ layerEnts (insLeaves leaves e.kt e) ↔ x = e ∨ x ∈ layerEnts leaves) := by
  obtain ⟨pre, leaf, post, hr⟩ := route_decomp hc hw
  have heq := hr.eq
  subst heq
  have hl : LeafOK leaf := hc.leafOK
  have hwf0 : ∀ x ∈ leaf.ents, x.kt.WF := fun x hx => (hl.2.1 x hx).1
  obtain ⟨a, b, h0, ha, hb⟩ := sorted_insert_decomp hw leaf.ents hwf0 hl.2.2.1
    (fun x hx => hno x (by rw [layerEnts_split]; simp [hx]))
  have hrank : rankIfInsert e.kt (leafKeys leaf) = a.length :=
    rank_eq_of_decomp hw h0 hwf0 hl.2.2.1 ha hb
  -- each clause holds of `e` and, by `LayerCore`, of the old entries `a ++ b`
  have hsorted : (a ++ e :: b).Pairwise (fun x y => KT.ltSpec x.kt y.kt = true) :=
    pairwise_mid.mpr ⟨h0 ▸ hl.2.2.1, ha, hb⟩
  have hwf : ∀ x ∈ a ++ e :: b, x.kt.WF ∧ (x.val = none ↔ x.kt.len = 9) :=
    forall_mem_mid.mpr ⟨⟨hw, hv⟩, h0 ▸ hl.2.1⟩
  have hlo : ∀ f ∈ leaf.fence, ∀ x ∈ a ++ e :: b, KT.ltSpec x.kt f = false :=
    fun f hf => forall_mem_mid.mpr ⟨hr.lo f hf, h0 ▸ hl.2.2.2 f hf⟩
  have hhi : ∀ b' ∈ post, ∀ f ∈ b'.fence, ∀ x ∈ a ++ e :: b, KT.ltSpec x.kt f = true :=
    fun b' hb' f hf => forall_mem_mid.mpr ⟨hr.hi b' hb' f hf, h0 ▸ (hc.before_post b' hb' f hf).2⟩
  have hfull : AllFull (pre ++ post) := hE.others_full
  have hlen := congrArg List.length h0
  rw [List.length_append] at hlen
  by_cases hlt : leaf.ents.length < 15
  · rw [insLeaves_lt e hr hlt, hrank, h0, insertIdx'_append]
    refine ⟨hc.replace rfl ⟨?_, hwf, hsorted, hlo⟩ hhi, (hfull.insert (by simp) rfl).emptOK r, ?_⟩
    · simp only [List.length_append, List.length_cons]; omega
    · intro x
      simp only [layerEnts_split, h0, List.mem_append, List.mem_cons, or_assoc, or_left_comm]
  · have h15 := hl.1
    rw [insLeaves_ge e hr hlt, hrank]
    obtain ⟨lo', h, hs, e1, e2, e3, e4, e5, e6⟩ :=
      split_shape (n := 8) h0 (by omega) hw (fun x hx => (hl.2.1 x hx).1) ha hb
    have hcut := congrArg List.length e4
    simp only [List.length_append, List.length_cons] at hcut
    rw [e1, e2, ← e3]
    have hne : lo' ≠ [] := by rintro rfl; simp at e5
    refine ⟨hc.split rfl rfl rfl hne ?_ ?_ ?_ ?_ ?_ ?_,
      ((hfull.insert (leaf := ⟨some h.kt, _, _, false, h :: hs⟩) (by simp) rfl).insert hne rfl).emptOK r, ?_⟩
    · simp only; omega
    · simp only [List.length_cons]; omega
    · rw [e4]; exact hwf
    · rw [e4]; exact hsorted
    · rw [e4]; exact hlo
    · rw [e4]; exact hhi
    · intro x
      simp only [layerEnts, List.flatMap_append, List.flatMap_cons]
      rw [← List.append_assoc lo', e4, h0]
      simp only [List.mem_append, List.mem_cons, or_assoc, or_left_comm]

/-- what `put` reports about the versions (C12), on the chain alone -/
theorem insLeaves_report {leaves : List Leaf} (hc : LayerCore leaves) {k : KT} (hk : k.WF) (e : Ent) :
    ∃ leaf, leaves[route k leaves]? = some leaf ∧
      leaves.getD (route k leaves) emptyLeaf = leaf ∧
      ((leaf.ents.length < 15 ∧ ∃ leaf', insLeaves leaves k e = leaves.set (route k leaves) leaf' ∧
          leaf'.vins = leaf.vins + 1 ∧ leaf'.vsplit = leaf.vsplit) ∨
       (leaf.ents.length = 15 ∧ ∃ a b, insLeaves leaves k e =
          leaves.take (route k leaves) ++ [a, b] ++ leaves.drop (route k leaves + 1) ∧
          a.vins = leaf.vins + 1 ∧ a.vsplit = leaf.vsplit + 1 ∧
          b.vins = leaf.vins + 1 ∧ b.vsplit = leaf.vsplit + 1)) := by
  obtain ⟨pre, leaf, post, hr⟩ := route_decomp hc hk
  have hl := hr.leafOK hc
  refine ⟨leaf, hr.getElem?, hr.getD, ?_⟩
  by_cases hlt : leaf.ents.length < 15
  · refine Or.inl ⟨hlt, { leaf with
      ents := insertIdx' leaf.ents (rankIfInsert k (leafKeys leaf)) e,
      vins := leaf.vins + 1, deleted := false }, ?_, rfl, rfl⟩
    rw [insLeaves_lt e hr hlt, hr.set]
  · have hlen : leaf.ents.length = 15 := by have := hl.1; omega
    rw [insLeaves_ge e hr hlt, hr.take, hr.drop]
    exact Or.inr ⟨hlen, _, _, by rw [List.append_assoc]; rfl, rfl, rfl, rfl, rfl⟩

end Yak.Tree
