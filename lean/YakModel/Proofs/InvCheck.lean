import YakModel.Proofs.LayerOps
/-!
# The executable check of `Inv`

`checkInv` compares neighbouring leaves only; `Inv` orders a chain pairwise. Fences are transitive,
so the two agree.
-/
namespace Yak.Tree
open Yak

theorem pairwise_of_chain : ∀ (ls : List Leaf) (a : Leaf), (∀ l ∈ ls, ∃ f, l.fence = some f) →
    beforeChain (a :: ls) = true → (a :: ls).Pairwise Before
  | [], _, _, _ => by simp
  | b :: r, a, hf, hc => by
    simp only [beforeChain, Bool.and_eq_true, decide_eq_true_eq] at hc
    have ih := pairwise_of_chain r b (fun l hl => hf l (by simp [hl])) hc.2
    rw [List.pairwise_cons]
    refine ⟨?_, ih⟩
    intro c hcm
    rcases List.mem_cons.mp hcm with e | hcr
    · subst e; exact hc.1
    · rw [List.pairwise_cons] at ih
      obtain ⟨g, hg⟩ := hf b (by simp)
      exact hc.1.of_fence_lt hg (fun f hfc => (ih.1 c hcr f hfc).1 g hg)

theorem chain_of_pairwise : ∀ (ls : List Leaf), ls.Pairwise Before → beforeChain ls = true
  | [], _ => rfl
  | [_], _ => rfl
  | a :: b :: r, h => by
    rw [List.pairwise_cons] at h
    simp only [beforeChain, Bool.and_eq_true, decide_eq_true_eq]
    exact ⟨h.1 b (by simp), chain_of_pairwise (b :: r) h.2⟩

theorem layerCoreFast_iff (ls : List Leaf) : LayerCoreFast ls ↔ LayerCore ls := by
  unfold LayerCoreFast LayerCore
  constructor
  · rintro ⟨h1, h2, h3⟩
    refine ⟨h1, ?_, h3⟩
    cases ls with
    | nil => exact List.Pairwise.nil
    | cons a r =>
      apply pairwise_of_chain r a _ h2
      intro l hl
      obtain ⟨f, hf, _⟩ := h1.tail_fence l hl
      exact ⟨f, hf⟩
  · rintro ⟨h1, h2, h3⟩
    exact ⟨h1, chain_of_pairwise ls h2, h3⟩

theorem invFast_iff (t : Tree) : InvFast t ↔ Inv t := by
  unfold InvFast Inv LayerOKFast LayerOK
  simp only [layerCoreFast_iff]

end Yak.Tree
