import YakModel.Proto.Lifecycle
/-!
# Invariants of the `Lifecycle` model (`Yak.Proto.Lifecycle`)

Repaired code (`fixD4 = true`): `LInv` ties the phase to the stop flags and the thread states.
Down: nothing of the last cycle is left, no thread runs; live: both threads run, both flags are
clear; finishing: both flags are set. Unrepaired code: `DInv`, the flags once set stay set.
-/
namespace Yak.Proto.Lifecycle

structure LInv (s : State) : Prop where
  down : s.up = false → s.finishing = false ∧ s.storages = [] ∧ s.retired = 0 ∧
    s.epochThread ≠ .running ∧ s.gcThread ≠ .running
  live : s.up = true → s.finishing = false → s.epochThread = .running ∧ s.gcThread = .running ∧
    s.epochEnd = false ∧ s.gcEnd = false
  fin : s.finishing = true → s.up = true ∧ s.epochEnd = true ∧ s.gcEnd = true ∧ s.storages = [] ∧
    (s.epochThread = .running ∨ s.epochThread = .exited) ∧
    (s.gcThread = .running ∨ s.gcThread = .exited)

theorem linv_boot (c : Cfg) : LInv (boot c) := by
  constructor <;> simp [boot]

theorem live_iff {s : State} : s.live = true ↔ s.up = true ∧ s.finishing = false := by
  simp [State.live]

/-- API calls: the invariant never reads `slots`, and `storages`, `retired` only outside the live
    phase -/
theorem linv_api {s : State} (h : LInv s) (hl : s.live = true) (sl : List (Bool × Nat))
    (st : List Name) (r : Nat) : LInv { s with slots := sl, storages := st, retired := r } :=
  have ⟨hup, hnf⟩ := live_iff.mp hl
  ⟨fun hd => Bool.noConfusion (hup.symm.trans hd), h.live,
    fun hf => Bool.noConfusion (hnf.symm.trans hf)⟩

theorem linv_step {c : Cfg} (hfix : c.fixD4 = true) {s s' : State} {e : Event}
    (h : LInv s) (hs : Step c s e s') : LInv s' := by
  cases e <;> simp only [Step, step?, Option.ite_none_right_eq_some, Option.some.injEq] at hs
  case init =>
    obtain ⟨g, rfl⟩ := hs
    exact ⟨nofun, fun _ _ => by simp [hfix], fun hf => Bool.noConfusion (g.2.symm.trans hf)⟩
  -- a thread that iterates is running, so the system is up; it exits only if its flag is set
  case epochIter =>
    obtain ⟨g, rfl⟩ := hs
    exact ⟨fun hd => absurd g (h.down hd).2.2.2.1, fun hu hf => by simp [h.live hu hf],
      fun hf => by simp [h.fin hf]⟩
  case gcIter =>
    obtain ⟨g, rfl⟩ := hs
    exact ⟨fun hd => absurd g (h.down hd).2.2.2.2, fun hu hf => by simp [h.live hu hf],
      fun hf => by simp [h.fin hf]⟩
  case create | delete => obtain ⟨g, rfl⟩ := hs; exact linv_api h g.1 _ _ _
  case retire | destroy => obtain ⟨g, rfl⟩ := hs; exact linv_api h g _ _ _
  case enter | leave => obtain ⟨g, hs⟩ := hs; split at hs <;> cases hs; exact linv_api h g _ _ _
  case finBegin =>
    obtain ⟨g, rfl⟩ := hs
    have ⟨hup, hnf⟩ := live_iff.mp g
    exact ⟨fun hd => Bool.noConfusion (hup.symm.trans hd), nofun,
      fun _ => by simp [hup, h.live hup hnf]⟩
  case finEnd =>
    obtain ⟨g, rfl⟩ := hs
    exact ⟨fun _ => by simp [g, h.fin g.1], nofun, nofun⟩

theorem linv_reach {c : Cfg} (hfix : c.fixD4 = true) {s : State} (h : Reach c s) : LInv s := by
  induction h with
  | boot => exact linv_boot c
  | step _ hs ih => exact linv_step hfix ih hs

theorem reach_exec {c : Cfg} : ∀ (es : List Event) {s s' : State}, Reach c s →
    exec c s es = some s' → Reach c s'
  | [], s, s', hr, h => by cases h; exact hr
  | e :: es, s, s', hr, h => by
    simp only [exec] at h
    cases h1 : step? c s e with
    | none => rw [h1] at h; cases h
    | some s1 => rw [h1] at h; exact reach_exec es (Reach.step hr h1) h

theorem exec_append (c : Cfg) : ∀ (es1 es2 : List Event) (s : State),
    exec c s (es1 ++ es2) = (exec c s es1).bind (fun s' => exec c s' es2)
  | [], _, _ => rfl
  | e :: es1, es2, s => by
    simp only [List.cons_append, exec]
    cases step? c s e with
    | none => rfl
    | some s1 => exact exec_append c es1 es2 s1

theorem exec_of_reach {c : Cfg} {s : State} (h : Reach c s) :
    ∃ es, exec c (boot c) es = some s := by
  induction h with
  | boot => exact ⟨[], rfl⟩
  | @step s s' e _ hs ih =>
    obtain ⟨es, hes⟩ := ih
    refine ⟨es ++ [e], ?_⟩
    rw [exec_append, hes]
    have : step? c s e = some s' := hs
    simp [exec, this]

theorem first_init (c : Cfg) : step? c (boot c) .init = some (firstUp c) := by
  cases hc : c.fixD4 <;> simp [step?, boot, firstUp, hc]

theorem init_from_down {c : Cfg} (hfix : c.fixD4 = true) {s : State} (hinv : LInv s)
    (hdown : s.up = false) :
    step? c s .init = some { firstUp c with epoch := s.epoch, cycles := s.cycles } := by
  -- `init` sets slots, flags, threads and `up`; by `down` the other fields are those of `firstUp`
  obtain ⟨hf, hst, hret, _, _⟩ := hinv.down hdown
  cases s
  simp_all [step?, firstUp]

theorem empty_cycle_from_down {c : Cfg} (hfix : c.fixD4 = true) {s : State} (hinv : LInv s)
    (hdown : s.up = false) :
    ∃ s', exec c s emptyCycle = some s' ∧ s'.up = false ∧ s'.cycles = s.cycles + 1 := by
  have h := init_from_down hfix hinv hdown
  simp only [emptyCycle, exec, h]
  simp [step?, firstUp, State.live]

/-- once fin() has set the flags, one more iteration of each running thread lets it return -/
theorem fin_completes {c : Cfg} {s : State} (hinv : LInv s) (hf : s.finishing = true) :
    ∃ es s', (∀ e ∈ es, e = .epochIter ∨ e = .gcIter ∨ e = .finEnd) ∧ es.length ≤ 3 ∧
      exec c s es = some s' ∧ s'.up = false ∧ s'.cycles = s.cycles + 1 := by
  obtain ⟨_, h2, h3, _, h5, h6⟩ := hinv.fin hf
  -- compute only `up` and `cycles` of the outcome, not the whole state
  suffices ∃ es : List Event, (∀ e ∈ es, e = .epochIter ∨ e = .gcIter ∨ e = .finEnd) ∧
      es.length ≤ 3 ∧
      (exec c s es).map (fun s' => (s'.up, s'.cycles)) = some (false, s.cycles + 1) by
    obtain ⟨es, hes, hlen, hmap⟩ := this
    obtain ⟨s', hs', hv⟩ := Option.map_eq_some_iff.mp hmap
    exact ⟨es, s', hes, hlen, hs', (Prod.mk.inj hv).1, (Prod.mk.inj hv).2⟩
  rcases h5 with he | he <;> rcases h6 with hg | hg
  · exact ⟨[.epochIter, .gcIter, .finEnd], by simp, by simp,
      by simp [exec, step?, he, hg, h2, h3, hf]⟩
  · exact ⟨[.epochIter, .finEnd], by simp, by simp, by simp [exec, step?, he, hg, h2, h3, hf]⟩
  · exact ⟨[.gcIter, .finEnd], by simp, by simp, by simp [exec, step?, he, hg, h2, h3, hf]⟩
  · exact ⟨[.finEnd], by simp, by simp, by simp [exec, step?, he, hg, h2, h3, hf]⟩

/-- D4: nothing clears the stop flags, so from the first fin() on they stay set -/
def DInv (s : State) : Prop :=
  (s.finishing = true ∨ 1 ≤ s.cycles) → s.epochEnd = true ∧ s.gcEnd = true

theorem dinv_step {c : Cfg} (hd4 : c.fixD4 = false) {s s' : State} {e : Event}
    (h : DInv s) (hs : Step c s e s') : DInv s' := by
  cases e <;> simp only [Step, step?, Option.ite_none_right_eq_some, Option.some.injEq] at hs
  case init => obtain ⟨_, rfl⟩ := hs; rw [hd4]; exact h
  case finBegin => obtain ⟨_, rfl⟩ := hs; exact fun _ => ⟨rfl, rfl⟩
  case finEnd => obtain ⟨g, rfl⟩ := hs; exact fun _ => h (Or.inl g.1)
  case enter | leave => obtain ⟨_, hs⟩ := hs; split at hs <;> cases hs; exact h
  -- the other events leave `finishing`, `cycles` and both flags as they are
  all_goals obtain ⟨_, rfl⟩ := hs; exact h

theorem dinv_reach {c : Cfg} (hd4 : c.fixD4 = false) {s : State} (h : Reach c s) : DInv s := by
  induction h with
  | boot => exact fun hc => by simp [boot] at hc
  | step _ hs ih => exact dinv_step hd4 ih hs

end Yak.Proto.Lifecycle
