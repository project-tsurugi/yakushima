import YakModel.TreeInv
import YakModel.Proofs.KeyOrderProofs
/-!
# Single-layer facts: order on tuples, lookup inside a leaf, routing by fences

A chain is looked at as `pre ++ leaf :: post`; `forall_mem_mid` and `pairwise_mid` split every
clause of `LayerCore` accordingly.
-/
namespace Yak.Tree
open Yak

theorem forall_mem_mid {α} {P : α → Prop} {pre post : List α} {x : α} :
    (∀ l ∈ pre ++ x :: post, P l) ↔ P x ∧ ∀ l ∈ pre ++ post, P l := by
  simp only [List.mem_append, List.mem_cons, or_imp, forall_and, forall_eq]
  exact ⟨fun ⟨h1, h2, h3⟩ => ⟨h2, h1, h3⟩, fun ⟨h2, h1, h3⟩ => ⟨h1, h2, h3⟩⟩

theorem pairwise_mid {α} {R : α → α → Prop} {pre post : List α} {x : α} :
    (pre ++ x :: post).Pairwise R ↔
      (pre ++ post).Pairwise R ∧ (∀ a ∈ pre, R a x) ∧ ∀ b ∈ post, R x b := by
  simp only [List.pairwise_append, List.pairwise_cons, List.mem_cons, forall_eq_or_imp]
  exact ⟨fun ⟨h1, ⟨h2, h3⟩, h4⟩ => ⟨⟨h1, h3, fun a ha => (h4 a ha).2⟩, fun a ha => (h4 a ha).1, h2⟩,
    fun ⟨⟨h1, h3, h4⟩, h5, h2⟩ => ⟨h1, ⟨h2, h3⟩, fun a ha => ⟨h5 a ha, h4 a ha⟩⟩⟩

-- `lt_*`: the order `KT.ltSpec` on key tuples, `≤` read as `¬ >`

theorem lt_asymm {a b : KT} (h : KT.ltSpec a b = true) : KT.ltSpec b a = false :=
  KT.ltSpec_asymm a b h

theorem lt_ne {a b : KT} (h : KT.ltSpec a b = true) : a ≠ b := KT.ltSpec_ne a b h

theorem lt_ne' {a b : KT} (h : KT.ltSpec a b = true) : b ≠ a := fun e => lt_ne h e.symm

theorem le_lt_trans {a b c : KT} (ha : a.WF) (hc : c.WF)
    (h1 : KT.ltSpec b a = false) (h2 : KT.ltSpec b c = true) : KT.ltSpec a c = true :=
  lt_of_le_of_lt_of_trans KT.ltSpec_trans (KT.ltSpec_total a c ha hc) h1 h2

theorem lt_le_trans {a b c : KT} (ha : a.WF) (hc : c.WF)
    (h1 : KT.ltSpec a b = true) (h2 : KT.ltSpec c b = false) : KT.ltSpec a c = true :=
  lt_of_lt_of_le_of_trans KT.ltSpec_trans (KT.ltSpec_total a c ha hc) h1 h2

-- `KT` derives `BEq` apart from `DecidableEq`: `==` on tuples is equality all the same
theorem kt_beq_iff (a b : KT) : (a == b) = true ↔ a = b := by
  cases a with | mk s1 l1 => cases b with | mk s2 l2 =>
  show (Yak.instBEqKT.beq _ _) = true ↔ _
  simp [Yak.instBEqKT.beq]

theorem not_lt_of_le_of_eq {a b : KT} (h : KT.ltSpec a b = true) : KT.ltSpec b a = false := lt_asymm h

theorem not_lt_len_zero (a b : KT) (hb : b.len = 0) : KT.ltSpec a b = false := by
  have hbb : b.bytes = [] := by simp [KT.bytes, hb]
  unfold KT.ltSpec
  rw [hbb, hb]
  cases a.bytes <;> simp [lexLt]

theorem len_ne_zero_of_lt {a b : KT} (h : KT.ltSpec a b = true) : b.len ≠ 0 := by
  intro h0; rw [not_lt_len_zero a b h0] at h; cases h

/-- the loop of `get_lv_of` over sorted entries -/
theorem leafLookup_ents {k : KT} (hk : k.WF) : ∀ (ents : List Ent), (∀ e ∈ ents, e.kt.WF) →
    ents.Pairwise (fun a b => KT.ltSpec a.kt b.kt = true) →
    match leafLookup k (ents.map (·.kt)) with
    | some r => ∃ a e b, ents = a ++ e :: b ∧ a.length = r ∧ e.kt = k
    | none => ∀ e ∈ ents, e.kt ≠ k
  | [], _, _ => by simp [leafLookup]
  | x :: xs, hw, hs => by
    rw [List.pairwise_cons] at hs
    rw [List.map_cons, leafLookup, leafProbe_spec k x.kt hk (hw x (by simp))]
    by_cases e : k = x.kt
    · rw [if_pos e]; exact ⟨[], x, xs, rfl, rfl, e.symm⟩
    · rw [if_neg e]
      by_cases hl : KT.ltSpec k x.kt = true
      · rw [if_pos hl]
        intro y hy
        rcases List.mem_cons.mp hy with rfl | hy
        · exact fun h => e h.symm
        · exact lt_ne' (KT.ltSpec_trans _ _ _ hl (hs.1 y hy))
      · rw [if_neg hl]
        have ih := leafLookup_ents hk xs (fun y hy => hw y (by simp [hy])) hs.2
        cases h : leafLookup k (xs.map (·.kt)) with
        | none =>
          rw [h] at ih
          intro y hy
          rcases List.mem_cons.mp hy with rfl | hy
          · exact fun h => e h.symm
          · exact ih y hy
        | some r =>
          rw [h] at ih
          obtain ⟨a, y, b, h1, h2, h3⟩ := ih
          exact ⟨x :: a, y, b, by rw [h1]; rfl, by rw [← h2]; rfl, h3⟩

theorem sorted_unique {ents : List Ent}
    (hs : ents.Pairwise (fun a b => KT.ltSpec a.kt b.kt = true)) {e e' : Ent}
    (he : e ∈ ents) (he' : e' ∈ ents) (hk : e.kt = e'.kt) : e = e' := by
  induction ents with
  | nil => cases he
  | cons x xs ih =>
    rw [List.pairwise_cons] at hs
    rcases List.mem_cons.mp he with h1 | h1 <;> rcases List.mem_cons.mp he' with h2 | h2
    · rw [h1, h2]
    · subst h1; exact absurd hk (lt_ne (hs.1 _ h2))
    · subst h2; exact absurd hk.symm (lt_ne (hs.1 _ h1))
    · exact ih hs.2 h1 h2

def leafGet (l : Leaf) (k : KT) : Option Ent :=
  (leafLookup k (leafKeys l)).map (fun r => l.ents.getD r default)

theorem leafLookup_split {l : Leaf} (hl : LeafOK l) {k : KT} (hk : k.WF) {r : Nat}
    (h : leafLookup k (leafKeys l) = some r) :
    ∃ a e b, l.ents = a ++ e :: b ∧ a.length = r ∧ e.kt = k ∧ l.ents.getD r default = e := by
  have := leafLookup_ents hk l.ents (fun e he => (hl.2.1 e he).1) hl.2.2.1
  rw [← leafKeys, h] at this
  obtain ⟨a, e, b, h1, h2, h3⟩ := this
  exact ⟨a, e, b, h1, h2, h3, by rw [h1, ← h2]; simp⟩

/-- The routing loop never tests the first leaf's fence: it walks right while the NEXT leaf's fence
    is `≤ k`. Hence the clauses about `.tail` and about the head of `post`. -/
theorem routeFrom_decomp (k : KT) : ∀ (ls : List Leaf) (c : Leaf),
    ∃ pre leaf post, c :: ls = pre ++ leaf :: post ∧ pre.length = routeFrom k ls ∧
      (pre = [] → leaf = c) ∧
      (∀ a ∈ (pre ++ [leaf]).tail, ∀ f ∈ a.fence, routeLeft k f = false) ∧
      (∀ b ∈ post.head?, ∃ f ∈ b.fence, routeLeft k f = true)
  | [], c => ⟨[], c, [], rfl, rfl, fun _ => rfl, by simp, by simp⟩
  | l :: ls, c => by
    by_cases h : ∃ f ∈ l.fence, routeLeft k f = true
    · obtain ⟨f, hf, hrl⟩ := h
      exact ⟨[], c, l :: ls, rfl, by simp [routeFrom, Option.mem_def.mp hf, hrl], fun _ => rfl, by simp,
        by simpa using ⟨f, hf, hrl⟩⟩
    · have hl : ∀ f ∈ l.fence, routeLeft k f = false := fun f hf => by
        simpa using fun hrl => h ⟨f, hf, hrl⟩
      have hr : routeFrom k (l :: ls) = routeFrom k ls + 1 := by
        rw [routeFrom]; split
        · rfl
        · rename_i f hf; rw [if_neg (by simp [hl f hf])]
      obtain ⟨pre, leaf, post, h1, h2, h3, h4, h5⟩ := routeFrom_decomp k ls l
      refine ⟨c :: pre, leaf, post, by rw [h1]; rfl, by rw [hr, ← h2]; rfl, by simp, ?_, h5⟩
      have hhd : pre ++ [leaf] = l :: (pre ++ [leaf]).tail := by
        cases pre with
        | nil => rw [h3 rfl]; rfl
        | cons p ps => rw [(List.cons.inj h1).1]; rfl
      intro a ha
      rw [List.cons_append, List.tail_cons, hhd] at ha
      rcases List.mem_cons.mp ha with rfl | ha
      · exact hl
      · exact h4 a ha

theorem FencesOK.tail_fence {leaves : List Leaf} (h : FencesOK leaves) :
    ∀ l ∈ leaves.tail, ∃ f, l.fence = some f ∧ f.WF ∧ f.len ≠ 0 := by
  cases leaves with
  | nil => cases h
  | cons x xs => exact h.2

theorem FencesOK.head_fence {l : Leaf} {ls : List Leaf} (h : FencesOK (l :: ls)) : l.fence = none := h.1

/-- `lo` is about the routed leaf's own fence, `hi` about the fence of every later leaf -/
structure Routed (leaves : List Leaf) (k : KT) (pre : List Leaf) (leaf : Leaf) (post : List Leaf) : Prop where
  eq : leaves = pre ++ leaf :: post
  len : pre.length = route k leaves
  lo : ∀ f ∈ leaf.fence, KT.ltSpec k f = false
  hi : ∀ b ∈ post, ∀ f ∈ b.fence, KT.ltSpec k f = true

theorem route_decomp {leaves : List Leaf} (h : LayerCore leaves) {k : KT} (hk : k.WF) :
    ∃ pre leaf post, Routed leaves k pre leaf post := by
  obtain ⟨hF, hP, -⟩ := h
  cases leaves with
  | nil => cases hF
  | cons c ls =>
    obtain ⟨pre, leaf, post, h1, h2, h3, h4, h5⟩ := routeFrom_decomp k ls c
    -- on the fences of the chain the interior node's test is the specification order
    have conv : ∀ a ∈ (c :: ls).tail, ∀ f ∈ a.fence, routeLeft k f = KT.ltSpec k f := by
      intro a ha f hf
      obtain ⟨f', hf', hw, -⟩ := hF.tail_fence a ha
      rw [hf'] at hf; cases hf
      exact routeLeft_eq k f hk hw
    refine ⟨pre, leaf, post, h1, h2, ?_, ?_⟩
    · intro f hf
      cases pre with
      | nil => rw [h3 rfl, hF.1] at hf; cases hf
      | cons p ps =>
        rw [← conv leaf (by rw [h1]; simp) f hf]
        exact h4 leaf (by simp) f hf
    · cases post with
      | nil => simp
      | cons b0 bs =>
        obtain ⟨f0, hf0, hr0⟩ := h5 b0 (by simp)
        rw [conv b0 (by rw [h1]; cases pre <;> simp) f0 hf0] at hr0
        intro b hb f hf
        rcases List.mem_cons.mp hb with rfl | hb'
        · rw [Option.mem_def.mp hf0] at hf; cases hf; exact hr0
        · rw [h1, pairwise_mid] at hP
          exact KT.ltSpec_trans _ _ _ hr0
            (((List.pairwise_cons.mp (List.pairwise_append.mp hP.1).2.1).1 b hb' f hf).1 f0 hf0)

theorem Routed.getElem? {leaves pre post : List Leaf} {leaf : Leaf} {k : KT}
    (hr : Routed leaves k pre leaf post) : leaves[route k leaves]? = some leaf := by
  rw [← hr.len, hr.eq]
  simp

theorem Routed.getD {leaves pre post : List Leaf} {leaf : Leaf} {k : KT}
    (hr : Routed leaves k pre leaf post) : leaves.getD (route k leaves) emptyLeaf = leaf := by
  rw [List.getD_eq_getElem?_getD, hr.getElem?]; rfl

theorem Routed.set {leaves pre post : List Leaf} {leaf : Leaf} {k : KT}
    (hr : Routed leaves k pre leaf post) (x : Leaf) :
    leaves.set (route k leaves) x = pre ++ x :: post := by
  rw [← hr.len, hr.eq]; simp

theorem Routed.take {leaves pre post : List Leaf} {leaf : Leaf} {k : KT}
    (hr : Routed leaves k pre leaf post) : leaves.take (route k leaves) = pre := by
  rw [← hr.len, hr.eq]; simp

theorem Routed.drop {leaves pre post : List Leaf} {leaf : Leaf} {k : KT}
    (hr : Routed leaves k pre leaf post) : leaves.drop (route k leaves + 1) = post := by
  rw [← hr.len, hr.eq]; simp

theorem Routed.leafOK {leaves pre post : List Leaf} {leaf : Leaf} {k : KT}
    (h : LayerCore leaves) (hr : Routed leaves k pre leaf post) : LeafOK leaf :=
  h.2.2 leaf (by rw [hr.eq]; simp)

theorem layerEnts_cons (l : Leaf) (ls : List Leaf) : layerEnts (l :: ls) = l.ents ++ layerEnts ls :=
  List.flatMap_cons

theorem layerEnts_append (a b : List Leaf) : layerEnts (a ++ b) = layerEnts a ++ layerEnts b :=
  List.flatMap_append

theorem layerEnts_split (pre : List Leaf) (leaf : Leaf) (post : List Leaf) :
    layerEnts (pre ++ leaf :: post) = layerEnts pre ++ (leaf.ents ++ layerEnts post) := by
  rw [layerEnts_append, layerEnts_cons]

theorem mem_layerEnts {leaves : List Leaf} {e : Ent} :
    e ∈ layerEnts leaves ↔ ∃ l ∈ leaves, e ∈ l.ents := by
  simp [layerEnts, List.mem_flatMap]

theorem LayerCore.leafOK {pre post : List Leaf} {leaf : Leaf} (h : LayerCore (pre ++ leaf :: post)) :
    LeafOK leaf := h.2.2 leaf (by simp)

theorem LayerCore.mid_fence {pre post : List Leaf} {leaf : Leaf} (h : LayerCore (pre ++ leaf :: post))
    (hp : pre ≠ []) : ∃ f, leaf.fence = some f ∧ f.WF ∧ f.len ≠ 0 :=
  h.1.tail_fence leaf (by cases pre <;> simp_all)

theorem LayerCore.pre_before {pre post : List Leaf} {leaf : Leaf} (h : LayerCore (pre ++ leaf :: post)) :
    ∀ a ∈ pre, Before a leaf := (pairwise_mid.mp h.2.1).2.1

theorem LayerCore.before_post {pre post : List Leaf} {leaf : Leaf} (h : LayerCore (pre ++ leaf :: post)) :
    ∀ b ∈ post, Before leaf b := (pairwise_mid.mp h.2.1).2.2

theorem Routed.only {leaves pre post : List Leaf} {leaf : Leaf} {k : KT}
    (h : LayerCore leaves) (hr : Routed leaves k pre leaf post) :
    ∀ e ∈ layerEnts leaves, e.kt = k → e ∈ leaf.ents := by
  intro e he hek
  have heq := hr.eq
  subst heq
  rw [layerEnts_split, List.mem_append, List.mem_append] at he
  rcases he with he | he | he
  · -- an entry of an earlier leaf is below the routed leaf's fence, the key is not
    exfalso
    obtain ⟨a, ha, hea⟩ := mem_layerEnts.mp he
    obtain ⟨f, hf, -⟩ := h.mid_fence (List.ne_nil_of_mem ha)
    have h1 := (h.pre_before a ha f hf).2 e hea
    rw [hek, hr.lo f hf] at h1; cases h1
  · exact he
  · -- an entry of a later leaf is not below that leaf's fence, the key is
    exfalso
    obtain ⟨b, hb, heb⟩ := mem_layerEnts.mp he
    obtain ⟨f, hf, -⟩ := h.1.tail_fence b (by cases pre <;> simp [hb])
    have h2 := (h.2.2 b (by simp [hb])).2.2.2 f hf e heb
    rw [hek, hr.hi b hb f hf] at h2; cases h2

def layerGet (leaves : List Leaf) (k : KT) : Option Ent :=
  leafGet (leaves.getD (route k leaves) emptyLeaf) k

theorem layerGet_some_iff {leaves : List Leaf} (h : LayerCore leaves) {k : KT} (hk : k.WF) (e : Ent) :
    layerGet leaves k = some e ↔ e ∈ layerEnts leaves ∧ e.kt = k := by
  obtain ⟨pre, leaf, post, hr⟩ := route_decomp h hk
  have hl := hr.leafOK h
  have hsub : ∀ x ∈ leaf.ents, x ∈ layerEnts leaves := fun x hx => by
    rw [hr.eq, layerEnts_split]; simp [hx]
  unfold layerGet leafGet
  rw [hr.getD]
  cases hlk : leafLookup k (leafKeys leaf) with
  | none =>
    have := leafLookup_ents hk leaf.ents (fun e he => (hl.2.1 e he).1) hl.2.2.1
    rw [← leafKeys, hlk] at this
    simp only [Option.map_none, reduceCtorEq, false_iff, not_and]
    exact fun he hek => this e (hr.only h e he hek) hek
  | some r =>
    obtain ⟨a, e', b, h3, -, h5, h6⟩ := leafLookup_split hl hk hlk
    have he' : e' ∈ leaf.ents := by rw [h3]; simp
    simp only [Option.map_some, Option.some.injEq, h6]
    constructor
    · rintro rfl; exact ⟨hsub _ he', h5⟩
    · rintro ⟨he, hek⟩
      exact sorted_unique hl.2.2.1 he' (hr.only h e he hek) (by rw [h5, hek])

theorem layerGet_none_iff {leaves : List Leaf} (h : LayerCore leaves) {k : KT} (hk : k.WF) :
    layerGet leaves k = none ↔ ∀ e ∈ layerEnts leaves, e.kt ≠ k := by
  rw [Option.eq_none_iff_forall_ne_some]
  exact ⟨fun hn e he hek => hn e ((layerGet_some_iff h hk e).mpr ⟨he, hek⟩),
    fun hall e hg => have := (layerGet_some_iff h hk e).mp hg; hall e this.1 this.2⟩

theorem layerGet_of_lookup {leaves : List Leaf} {k : KT} {r : Nat}
    (h : leafLookup k (leafKeys (leaves.getD (route k leaves) emptyLeaf)) = some r) :
    layerGet leaves k = some ((leaves.getD (route k leaves) emptyLeaf).ents.getD r default) := by
  unfold layerGet leafGet; rw [h]; rfl

theorem layerGet_of_lookup_none {leaves : List Leaf} {k : KT}
    (h : leafLookup k (leafKeys (leaves.getD (route k leaves) emptyLeaf)) = none) :
    layerGet leaves k = none := by
  unfold layerGet leafGet; rw [h]; rfl

theorem hit_split {leaves : List Leaf} (hc : LayerCore leaves) {k : KT} (hk : k.WF) {e : Ent}
    (h : layerGet leaves k = some e) :
    ∃ pre leaf post a b, Routed leaves k pre leaf post ∧ leaf.ents = a ++ e :: b ∧ e.kt = k ∧
      leafLookup k (leafKeys leaf) = some a.length := by
  obtain ⟨pre, leaf, post, hr⟩ := route_decomp hc hk
  have hl := hr.leafOK hc
  unfold layerGet leafGet at h
  rw [hr.getD] at h
  cases hlk : leafLookup k (leafKeys leaf) with
  | none => rw [hlk] at h; cases h
  | some r =>
    obtain ⟨a, e', b, h3, h4, h5, h6⟩ := leafLookup_split hl hk hlk
    rw [hlk, Option.map_some, h6] at h
    cases h
    exact ⟨pre, leaf, post, a, b, hr, h3, h5, by rw [h4]; exact hlk⟩

theorem layerEnts_sorted {leaves : List Leaf} (h : LayerCore leaves) :
    (layerEnts leaves).Pairwise (fun a b => KT.ltSpec a.kt b.kt = true) := by
  obtain ⟨hF, hP, hL⟩ := h
  rw [layerEnts, List.pairwise_flatMap]
  refine ⟨fun l hl => (hL l hl).2.2.1, ?_⟩
  -- entries of `l` are below the fence of a later leaf `m`, those of `m` are not
  have key : ∀ l ∈ leaves, ∀ m ∈ leaves.tail, Before l m →
      ∀ x ∈ l.ents, ∀ y ∈ m.ents, KT.ltSpec x.kt y.kt = true := by
    intro l hl m hm hb x hx y hy
    obtain ⟨f, hf, -⟩ := hF.tail_fence m hm
    have hm' := List.mem_of_mem_tail hm
    exact lt_le_trans ((hL l hl).2.1 x hx).1 ((hL m hm').2.1 y hy).1 ((hb f hf).2 x hx)
      ((hL m hm').2.2.2 f hf y hy)
  cases leaves with
  | nil => exact List.Pairwise.nil
  | cons c ls =>
    rw [List.pairwise_cons] at hP ⊢
    exact ⟨fun m hm => key c (by simp) m hm (hP.1 m hm),
      hP.2.imp_of_mem fun ha hb hab => key _ (by simp [ha]) _ hb hab⟩

theorem layerEnts_unique {leaves : List Leaf} (h : LayerCore leaves) {e e' : Ent}
    (he : e ∈ layerEnts leaves) (he' : e' ∈ layerEnts leaves) (hk : e.kt = e'.kt) : e = e' :=
  sorted_unique (layerEnts_sorted h) he he' hk

theorem layerEnts_wf {leaves : List Leaf} (h : LayerCore leaves) {e : Ent}
    (he : e ∈ layerEnts leaves) : e.kt.WF ∧ (e.val = none ↔ e.kt.len = 9) := by
  obtain ⟨l, hl, hel⟩ := mem_layerEnts.mp he
  exact (h.2.2 l hl).2.1 e hel

end Yak.Tree
