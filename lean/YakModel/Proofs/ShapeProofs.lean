import YakModel.Shape
/-!
# Proofs about `mem_usage` computed from the structure dump (C20)

Everything is phrased through `rows.getD i ⟨0,0,0⟩` (a missing row is an all-zero row).
`Adds rows' rows lvl c u r` says that `rows'` is `rows` with `c`, `u`, `r` added to row `lvl` and
every other row left alone: `addAt` does that, such steps compose, and `memBorder` is a chain of
them. Mutual structural recursions over the nested inductive `BTree` lift that to `memNode` /
`memChildren`.
-/
namespace Yak.Shape
open Yak Yak.Tree

/-- the all-zero row (what a missing row counts as) -/
abbrev zrow : MemRow := ⟨0, 0, 0⟩

private theorem getD_pad (rows : List MemRow) (k i : Nat) :
    (rows ++ List.replicate k zrow).getD i zrow = rows.getD i zrow := by
  rw [List.getD_eq_getElem?_getD, List.getD_eq_getElem?_getD, List.getElem?_append]
  by_cases h : i < rows.length
  · rw [if_pos h]
  · rw [if_neg h, List.getElem?_eq_none (Nat.le_of_not_lt h), List.getElem?_replicate]
    split <;> rfl

/-- `rows'` is `rows` with `c`, `u`, `r` added to the three fields of row `lvl` -/
def Adds (rows' rows : List MemRow) (lvl c u r : Nat) : Prop :=
  ∀ i, rows'.getD i zrow =
    if i = lvl then
      ⟨(rows.getD lvl zrow).count + c, (rows.getD lvl zrow).used + u, (rows.getD lvl zrow).reserved + r⟩
    else rows.getD i zrow

theorem Adds.trans {r₀ r₁ r₂ : List MemRow} {lvl c₁ u₁ v₁ c₂ u₂ v₂ : Nat}
    (h₁ : Adds r₁ r₀ lvl c₁ u₁ v₁) (h₂ : Adds r₂ r₁ lvl c₂ u₂ v₂) :
    Adds r₂ r₀ lvl (c₁ + c₂) (u₁ + u₂) (v₁ + v₂) := by
  intro i
  rw [h₂ i, h₁ lvl, if_pos rfl]
  split
  · simp only [Nat.add_assoc]
  · next hi => rw [h₁ i, if_neg hi]

theorem adds_addAt (rows : List MemRow) (lvl c u r : Nat) :
    Adds (addAt rows lvl c u r) rows lvl c u r := by
  intro i
  unfold addAt
  generalize hp : (if rows.length ≤ lvl then rows ++ List.replicate (lvl + 1 - rows.length) zrow
    else rows) = p
  have hget : ∀ j, p.getD j zrow = rows.getD j zrow := by
    intro j; subst hp; split
    · exact getD_pad rows _ j
    · rfl
  have hlen : lvl < p.length := by
    subst hp; split
    · rw [List.length_append, List.length_replicate]; omega
    · omega
  show (p.modify lvl _).getD i zrow = _
  rw [List.getD_eq_getElem?_getD, List.getElem?_modify]
  by_cases hi : i = lvl
  · subst hi
    rw [if_pos rfl, ← hget i, List.getD_eq_getElem?_getD, List.getElem?_eq_getElem hlen]
    simp
  · rw [if_neg hi, ← hget i, List.getD_eq_getElem?_getD]
    have : ¬ lvl = i := fun e => hi e.symm
    cases p[i]? <;> simp [this]

def valBytes (ents : List DEnt) : Nat :=
  ((ents.filterMap (·.val)).map (fun x => x.len + x.align)).sum

theorem valBytes_nil : valBytes [] = 0 := rfl

theorem valBytes_cons (e : DEnt) (es : List DEnt) :
    valBytes (e :: es) =
      (match e.val with | some v => v.len + v.align | none => 0) + valBytes es := by
  unfold valBytes
  cases h : e.val with
  | none => simp [h]
  | some v => simp [h]

private theorem adds_foldl_vals (lvl : Nat) (ents : List DEnt) (rows : List MemRow) :
    Adds (ents.foldl (fun rows e =>
        match e.val with
        | some v => addAt rows lvl 0 (v.len + v.align) (v.len + v.align)
        | none => rows) rows) rows lvl 0 (valBytes ents) (valBytes ents) := by
  induction ents generalizing rows with
  | nil => intro i; split <;> simp_all [valBytes_nil]
  | cons e es ih =>
    rw [List.foldl_cons, valBytes_cons]
    cases e.val with
    | none => simpa only [Nat.zero_add] using ih rows
    | some v => exact (adds_addAt rows lvl 0 _ _).trans (ih _)

theorem adds_memBorder (rows : List MemRow) (lvl : Nat) (ents : List DEnt) :
    Adds (memBorder rows lvl ents) rows lvl 1
      (Yak.Const.sizeofBorder -
        (Yak.Const.keySliceLength - ents.length) * Yak.Const.sizeofLinkOrValue + valBytes ents)
      (Yak.Const.sizeofBorder + valBytes ents) :=
  (adds_addAt rows lvl 1 _ _).trans (adds_foldl_vals lvl ents _)

/-- `cnt t d` / `cntL cs d` count the nodes of a tree / of a list of trees at relative depth `d`
    (the defining equations of `countAt` in `YakProps/C20.lean`). -/
structure IsCount (cnt : BTree → Nat → Nat) (cntL : List BTree → Nat → Nat) : Prop where
  border : ∀ v ents d, cnt (.border v ents) d = if d = 0 then 1 else 0
  interior : ∀ v ks cs d, cnt (.interior v ks cs) d = if d = 0 then 1 else cntL cs (d - 1)
  nil : ∀ d, cntL [] d = 0
  cons : ∀ c cs d, cntL (c :: cs) d = cnt c d + cntL cs d

section counts
variable (cnt : BTree → Nat → Nat) (cntL : List BTree → Nat → Nat) (H : IsCount cnt cntL)
include H

mutual
theorem memNode_count_getD :
    ∀ (t : BTree) (lvl i : Nat) (acc : List MemRow × List (List UInt8 × Nat)),
      ((memNode t lvl acc).1.getD i zrow).count =
        (acc.1.getD i zrow).count + (if lvl ≤ i then cnt t (i - lvl) else 0)
  | .border v ents, lvl, i, (rows, links) => by
    simp only [memNode, adds_memBorder rows lvl ents i, H.border]
    by_cases h : i = lvl
    · subst h; simp
    · have h2 : ¬ i - lvl = 0 ∨ ¬ lvl ≤ i := by omega
      rcases h2 with h2 | h2 <;> simp [h, h2]
  | .interior v ks cs, lvl, i, (rows, links) => by
    simp only [memNode]
    rw [memChildren_count_getD cs (lvl + 1) i, H.interior, adds_addAt rows lvl _ _ _ i]
    by_cases h : i = lvl
    · subst h
      have : ¬ i + 1 ≤ i := by omega
      simp [this]
    · by_cases h2 : lvl ≤ i
      · have h3 : lvl + 1 ≤ i := by omega
        have h4 : ¬ i - lvl = 0 := by omega
        have h5 : i - (lvl + 1) = i - lvl - 1 := by omega
        simp [h, h2, h3, h4, h5]
      · have h3 : ¬ lvl + 1 ≤ i := by omega
        simp [h, h2, h3]

theorem memChildren_count_getD :
    ∀ (cs : List BTree) (lvl i : Nat) (acc : List MemRow × List (List UInt8 × Nat)),
      ((memChildren cs lvl acc).1.getD i zrow).count =
        (acc.1.getD i zrow).count + (if lvl ≤ i then cntL cs (i - lvl) else 0)
  | [], lvl, i, acc => by
    simp [memChildren, H.nil]
  | c :: cs, lvl, i, acc => by
    simp only [memChildren]
    rw [memChildren_count_getD cs lvl i, memNode_count_getD c lvl i, H.cons]
    split <;> omega
end

/-- for any `cnt` with the equations of `IsCount`; `YakProps/C20.lean` puts in its `countAt` -/
theorem memNode_counts (t : BTree) (lvl d : Nat) (rows : List MemRow)
    (links : List (List UInt8 × Nat)) :
    ((memNode t lvl (rows, links)).1.getD (lvl + d) ⟨0, 0, 0⟩).count =
      (rows.getD (lvl + d) ⟨0, 0, 0⟩).count + cnt t d := by
  have := memNode_count_getD cnt cntL H t lvl (lvl + d) (rows, links)
  rw [this]
  simp
end counts

/-- row by row, used bytes are at most reserved bytes -/
def Good (rows : List MemRow) : Prop := ∀ i, (rows.getD i zrow).used ≤ (rows.getD i zrow).reserved

theorem good_iff (rows : List MemRow) : (∀ r ∈ rows, r.used ≤ r.reserved) ↔ Good rows := by
  constructor
  · intro h i
    rw [List.getD_eq_getElem?_getD]
    cases hi : rows[i]? with
    | none => exact Nat.le_refl 0
    | some r => exact h r (List.mem_iff_getElem?.2 ⟨i, hi⟩)
  · intro h r hr
    obtain ⟨i, hi⟩ := List.mem_iff_getElem?.1 hr
    have := h i
    rw [List.getD_eq_getElem?_getD, hi] at this
    exact this

theorem Adds.good {rows' rows : List MemRow} {lvl c u r : Nat} (h : Adds rows' rows lvl c u r)
    (hur : u ≤ r) (hg : Good rows) : Good rows' := by
  intro i
  rw [h i]
  split
  · exact Nat.add_le_add (hg lvl) hur
  · exact hg i

mutual
theorem good_memNode :
    ∀ (t : BTree) (lvl : Nat) (acc : List MemRow × List (List UInt8 × Nat)),
      Good acc.1 → Good (memNode t lvl acc).1
  | .border v ents, lvl, (rows, links), h => by
    simp only [memNode]
    exact (adds_memBorder rows lvl ents).good (Nat.add_le_add_right (Nat.sub_le _ _) _) h
  | .interior v ks cs, lvl, (rows, links), h => by
    simp only [memNode]
    exact good_memChildren cs (lvl + 1) _ ((adds_addAt rows lvl _ _ _).good (Nat.sub_le _ _) h)

theorem good_memChildren :
    ∀ (cs : List BTree) (lvl : Nat) (acc : List MemRow × List (List UInt8 × Nat)),
      Good acc.1 → Good (memChildren cs lvl acc).1
  | [], lvl, acc, h => by simpa only [memChildren] using h
  | c :: cs, lvl, acc, h => by
    simp only [memChildren]
    exact good_memChildren cs lvl _ (good_memNode c lvl acc h)
end

theorem used_le_reserved (t : BTree) (lvl : Nat) (rows : List MemRow)
    (links : List (List UInt8 × Nat)) (_hw : checkInteriors t = true)
    (h : ∀ r ∈ rows, r.used ≤ r.reserved) :
    ∀ r ∈ (memNode t lvl (rows, links)).1, r.used ≤ r.reserved :=
  (good_iff _).2 (good_memNode t lvl (rows, links) ((good_iff rows).1 h))

theorem border_row (_v : DVer) (ents : List DEnt) (lvl : Nat) (_he : ents.length ≤ 15) :
    let r := (memBorder [] lvl ents).getD lvl ⟨0, 0, 0⟩
    let vals := (ents.filterMap (·.val)).map (fun x => x.len + x.align)
    r.count = 1 ∧ r.reserved = Yak.Const.sizeofBorder + vals.sum ∧
    r.used = Yak.Const.sizeofBorder - (15 - ents.length) * 8 + vals.sum := by
  intro r vals
  have hr : r = (memBorder [] lvl ents).getD lvl zrow := rfl
  rw [adds_memBorder [] lvl ents lvl, if_pos rfl] at hr
  have hv : valBytes ents = vals.sum := rfl
  have hk : Yak.Const.keySliceLength = 15 := rfl
  have hl : Yak.Const.sizeofLinkOrValue = 8 := rfl
  rw [hr, hv, hk, hl]
  simp

theorem links_one_below (v : DVer) (ents : List DEnt) (lvl : Nat) (rows : List MemRow) :
    (memNode (.border v ents) lvl (rows, [])).2 =
      ents.filterMap (fun e => match e.val with | none => some (e.kt.slice, lvl + 1) | some _ => none) := by
  unfold memNode
  exact List.nil_append _

end Yak.Shape
