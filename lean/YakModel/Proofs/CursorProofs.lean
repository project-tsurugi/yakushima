import YakModel.Cursor
import YakModel.Proofs.KeyOrderProofs
/-!
# Proofs about the cursor contract (C10)

`Cursor.remaining` is a filter of `content t`, so strictly ascending when `content t` is.
`Cursor.ahead` is `remaining` in the order the cursor travels: `next` returns its head and leaves
its tail, so `n` steps of `drain` return its first `n` entries. `pause_anywhere` only uses that `drain` iterates `next`: its
two hypotheses belong to the property's wording and are not used.
-/
namespace Yak.Tree
open Yak

abbrev KSorted (l : List (Key × Val)) : Prop := l.Pairwise (fun a b => lexLt a.1 b.1 = true)

theorem Cursor.open_rejects_iff (lk : Key) (le : EP) (rk : Key) (re : EP) (r2l : Bool) :
    (Cursor.open? lk le rk re r2l).isNone = true ↔ checkEmptyRange lk le rk re = false := by
  unfold Cursor.open?
  cases h : checkEmptyRange lk le rk re <;> simp

private theorem filter_beyond_head {α} {R : α → α → Bool} (hirr : ∀ a, R a a = false) {a : α}
    {l : List α} (hs : (a :: l).Pairwise (fun x y => R x y = true)) : (a :: l).filter (R a) = l := by
  rw [List.filter_cons, hirr, if_neg Bool.false_ne_true, List.filter_eq_self]
  exact (List.pairwise_cons.1 hs).1

private theorem filter_narrow {α} (l : List α) (p q : α → Bool) (h : ∀ x, q x = true → p x = true) :
    (l.filter p).filter q = l.filter q := by
  rw [List.filter_filter]
  apply List.filter_congr
  intro x _
  cases hq : q x
  · rfl
  · rw [h x hq]; rfl

theorem Cursor.remaining_sorted (c : Cursor) (t : Tree) (hs : KSorted (content t)) :
    KSorted (c.remaining t) := by
  unfold Cursor.remaining
  cases c.last with
  | none => exact hs.filter _
  | some k => cases c.r2l <;> exact (hs.filter _).filter _

theorem Cursor.remaining_sub (c : Cursor) (t : Tree) (kv : Key × Val) (h : kv ∈ c.remaining t) :
    inInterval c.lk c.le c.rk c.re kv.1 = true ∧ kv ∈ content t ∧
    (∀ k, c.last = some k → if c.r2l then lexLt kv.1 k = true else lexLt k kv.1 = true) := by
  unfold Cursor.remaining at h
  cases hl : c.last with
  | none =>
    rw [hl, List.mem_filter] at h
    exact ⟨h.2, h.1, fun k hk => by cases hk⟩
  | some k0 =>
    rw [hl] at h
    have h' : kv ∈ (content t).filter (fun kv => inInterval c.lk c.le c.rk c.re kv.1) ∧
        (if c.r2l then lexLt kv.1 k0 = true else lexLt k0 kv.1 = true) := by
      cases hr : c.r2l <;> simpa only [hr, Bool.false_eq_true, if_false, if_true, List.mem_filter] using h
    rw [List.mem_filter] at h'
    exact ⟨h'.1.2, h'.1.1, fun k hk => by cases hk; exact h'.2⟩

/-- once `kv` has been returned, what remains is what lay beyond it -/
private theorem Cursor.remaining_advance (c : Cursor) (t : Tree) (kv : Key × Val)
    (h : kv ∈ c.remaining t) :
    ({ c with last := some kv.1 } : Cursor).remaining t =
      if c.r2l then (c.remaining t).filter (fun x => lexLt x.1 kv.1)
      else (c.remaining t).filter (fun x => lexLt kv.1 x.1) := by
  have hk := (c.remaining_sub t kv h).2.2
  unfold Cursor.remaining
  cases hl : c.last with
  | none => rfl
  | some k =>
    have hk := hk k hl
    cases hr : c.r2l <;> simp only [hr, Bool.false_eq_true, if_false, if_true] at hk ⊢
    · exact (filter_narrow _ _ _ fun x hx => lexLt_trans k kv.1 x.1 hk hx).symm
    · exact (filter_narrow _ _ _ fun x hx => lexLt_trans x.1 kv.1 k hx hk).symm

/-- what remains, in the order the cursor travels -/
def Cursor.ahead (c : Cursor) (t : Tree) : List (Key × Val) :=
  if c.r2l then (c.remaining t).reverse else c.remaining t

theorem Cursor.mem_ahead {c : Cursor} {t : Tree} {kv : Key × Val} :
    kv ∈ c.ahead t ↔ kv ∈ c.remaining t := by
  unfold Cursor.ahead
  split
  · exact List.mem_reverse
  · rfl

theorem Cursor.next_ahead (c : Cursor) (t : Tree) :
    c.next t = match c.ahead t with
      | kv :: _ => (some kv, { c with last := some kv.1 })
      | [] => (none, c) := by
  unfold Cursor.next Cursor.ahead
  cases c.r2l
  · cases c.remaining t <;> rfl
  · simp only [if_true, List.getLast?_eq_head?_reverse]
    cases (c.remaining t).reverse <;> rfl

/-- once its head has been returned, what lies ahead is the tail -/
theorem Cursor.ahead_advance (c : Cursor) (t : Tree) (hs : KSorted (content t)) {kv : Key × Val}
    {r : List (Key × Val)} (h : c.ahead t = kv :: r) :
    ({ c with last := some kv.1 } : Cursor).ahead t = r := by
  have hsr := c.remaining_sorted t hs
  have hadv := c.remaining_advance t kv (Cursor.mem_ahead.1 (h ▸ List.mem_cons_self))
  unfold Cursor.ahead at h ⊢
  by_cases hr : c.r2l = true
  · -- right to left is left to right on the reversed list
    rw [if_pos hr] at h hadv ⊢
    rw [hadv, ← List.filter_reverse, h]
    exact filter_beyond_head (R := fun (a b : Key × Val) => lexLt b.1 a.1) (fun a => lexLt_irrefl a.1)
      (h ▸ List.pairwise_reverse.2 hsr)
  · rw [if_neg hr] at h hadv ⊢
    rw [hadv, h]
    exact filter_beyond_head (R := fun (a b : Key × Val) => lexLt a.1 b.1) (fun a => lexLt_irrefl a.1)
      (h ▸ hsr)

theorem Cursor.drain_eq_take (t : Tree) (hs : KSorted (content t)) : ∀ (n : Nat) (c : Cursor),
    c.drain t n = (c.ahead t).take n
  | 0, c => rfl
  | n + 1, c => by
    rw [Cursor.drain, Cursor.next_ahead]
    cases h : c.ahead t with
    | nil => rfl
    | cons kv r =>
      simp only
      rw [Cursor.drain_eq_take t hs n, c.ahead_advance t hs h, List.take_succ_cons]

theorem Cursor.drain_enumerates (c : Cursor) (t : Tree) (hfresh : c.last = none)
    (hs : (content t).Pairwise (fun a b => lexLt a.1 b.1 = true)) (n : Nat)
    (hn : ((content t).filter (fun kv => inInterval c.lk c.le c.rk c.re kv.1)).length ≤ n) :
    c.drain t n =
      (if c.r2l then ((content t).filter (fun kv => inInterval c.lk c.le c.rk c.re kv.1)).reverse
       else (content t).filter (fun kv => inInterval c.lk c.le c.rk c.re kv.1)) := by
  have hrem : c.remaining t = (content t).filter (fun kv => inInterval c.lk c.le c.rk c.re kv.1) := by
    unfold Cursor.remaining; rw [hfresh]
  rw [Cursor.drain_eq_take t hs, Cursor.ahead, hrem, List.take_of_length_le]
  split <;> simpa using hn

private theorem Cursor.next_none (c : Cursor) (t : Tree) (c' : Cursor) (h : c.next t = (none, c')) :
    c' = c := by
  rw [Cursor.next_ahead] at h
  cases hs : c.ahead t <;> rw [hs] at h
  · exact (Prod.mk.inj h).2.symm
  · cases h

private theorem Cursor.drain_iter_of_end (c : Cursor) (t : Tree) (h : c.next t = (none, c)) (i n : Nat) :
    ((List.range i).foldl (fun c' _ => (c'.next t).2) c).drain t n = [] := by
  induction i with
  | zero =>
    cases n with
    | zero => rfl
    | succ n => rw [List.range_zero, List.foldl_nil, Cursor.drain, h]
  | succ i ih => rwa [List.range_succ_eq_map, List.foldl_cons, List.foldl_map, h]

theorem Cursor.pause_anywhere (c : Cursor) (t : Tree) (_hfresh : c.last = none)
    (_hs : (content t).Pairwise (fun a b => lexLt a.1 b.1 = true)) (i n : Nat) :
    c.drain t (i + n) =
      c.drain t i ++ ((List.range i).foldl (fun c' _ => (c'.next t).2) c).drain t n := by
  clear _hfresh _hs
  induction i generalizing c with
  | zero => simp [Cursor.drain]
  | succ i ih =>
    rw [Nat.add_right_comm, List.range_succ_eq_map, List.foldl_cons, List.foldl_map,
      Cursor.drain, Cursor.drain]
    cases hnx : c.next t with
    | mk o c' =>
      cases o with
      | none =>
        obtain rfl := Cursor.next_none c t c' hnx
        exact (Cursor.drain_iter_of_end c' t hnx i n).symm
      | some kv => exact congrArg (kv :: ·) (ih c')

theorem Cursor.next_monotone (c : Cursor) (t : Tree) (kv : Key × Val) (c' : Cursor)
    (h : c.next t = (some kv, c')) :
    inInterval c.lk c.le c.rk c.re kv.1 = true ∧ kv ∈ content t ∧ c'.last = some kv.1 ∧
    (∀ k, c.last = some k → if c.r2l then lexLt kv.1 k = true else lexLt k kv.1 = true) := by
  rw [Cursor.next_ahead] at h
  cases ha : c.ahead t <;> rw [ha] at h <;> cases h
  have hmem : kv ∈ c.remaining t := Cursor.mem_ahead.1 (ha ▸ List.mem_cons_self)
  have := c.remaining_sub t kv hmem
  exact ⟨this.1, this.2.1, rfl, this.2.2⟩

end Yak.Tree
