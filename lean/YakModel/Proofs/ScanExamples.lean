import YakModel.Scan
import YakModel.Proofs.TreeProofs
/-!
# Concrete witnesses: the two scan defects (D2, D5) on the unrepaired configurations, and a tree
with a maximal fence on which the right-to-left statement fails

The D2 and D5 trees are produced by `put` (`decide +kernel` evaluates `putAt`); the third is a
literal that no operation produces. The kernel does not evaluate the mutual recursion of `scan`,
so the scans are evaluated by `simp` on the tree literal.
-/
namespace Yak.Tree
open Yak

private def ent1 (b : UInt8) : Ent := ⟨⟨[b, 0, 0, 0, 0, 0, 0, 0], 1⟩, some ⟨[], 8⟩⟩

/-- sixteen one-byte keys `[0] … [15]`: the root border has split once (two leaves). -/
def d5Tree : Tree :=
  (List.range 16).foldl (fun t i => (put t [UInt8.ofNat i] ⟨[], 8⟩ false).tree) Tree.empty

private def d5Lit : Tree :=
  [⟨[], [⟨none, 16, 1, false, [ent1 0, ent1 1, ent1 2, ent1 3, ent1 4, ent1 5, ent1 6, ent1 7]⟩,
    ⟨some ⟨[8, 0, 0, 0, 0, 0, 0, 0], 1⟩, 16, 1, false,
      [ent1 8, ent1 9, ent1 10, ent1 11, ent1 12, ent1 13, ent1 14, ent1 15]⟩]⟩]

private theorem d5Tree_eq : d5Tree = d5Lit := by decide +kernel

theorem d5Tree_inv : Inv d5Tree := d5Tree_eq ▸ (checkInv_iff d5Lit).mp (by decide +kernel)

private theorem d5_len_key : (scan cfgD5 d5Lit [11] .inf [] .inf 0 false).tuples.length = 8 := by
  simp [scan, scanLayer, scanLeaves, scanEnts, d5Lit, ent1, scanArgsOk, checkEmptyRange, findLayer,
    cfgD5, descentKT, route, routeFrom, routeLeft, beforeLeft, withinRight, padTo, memcmp]

private theorem d5_len_nokey : (scan cfgD5 d5Lit [] .inf [] .inf 0 false).tuples.length = 16 := by
  simp [scan, scanLayer, scanLeaves, scanEnts, d5Lit, ent1, scanArgsOk, checkEmptyRange, findLayer,
    cfgD5, descentKT, route, routeFrom, routeLeft, beforeLeft, withinRight, padTo]

/-- with a left INF the unrepaired scan still descends by `l_key`: it starts in the second leaf
    and misses the eight keys of the first. -/
theorem D5_counterexample :
    ∃ (t : Tree) (lk : Key), Inv t ∧
      (scan cfgD5 t lk .inf [] .inf 0 false).tuples ≠ (scan cfgD5 t [] .inf [] .inf 0 false).tuples := by
  refine ⟨d5Tree, [11], d5Tree_inv, ?_⟩
  rw [d5Tree_eq]
  intro h
  have := congrArg List.length h
  rw [d5_len_key, d5_len_nokey] at this
  cases this

/-- the single key `"aaaaaaaa" ++ "x"`: one link entry in layer `[]`, one entry in the next layer. -/
def d2Tree : Tree := (put Tree.empty [97, 97, 97, 97, 97, 97, 97, 97, 120] ⟨[], 8⟩ false).tree

private def d2Lit : Tree :=
  [⟨[], [⟨none, 1, 0, false, [⟨⟨[97, 97, 97, 97, 97, 97, 97, 97], 9⟩, none⟩]⟩]⟩,
   ⟨[97, 97, 97, 97, 97, 97, 97, 97], [⟨none, 1, 0, false, [⟨⟨[120, 0, 0, 0, 0, 0, 0, 0], 1⟩, some ⟨[], 8⟩⟩]⟩]⟩]

private theorem d2Tree_eq : d2Tree = d2Lit := by decide +kernel

theorem d2Tree_inv : Inv d2Tree := d2Tree_eq ▸ (checkInv_iff d2Lit).mp (by decide +kernel)

/-- the scan `["" incl, "a" incl]` stops at the link entry (right endpoint passed) without having
    recorded the leaf: the node set is empty although the scan covered `"a"`. -/
theorem D2_counterexample :
    ∃ (t : Tree) (lk rk : Key) (le re : EP), Inv t ∧ scanArgsOk lk le rk re 0 false = true ∧
      (scan cfgD2 t lk le rk re 0 false).nodes = [] := by
  refine ⟨d2Tree, [], [97], .incl, .incl, d2Tree_inv, by decide, ?_⟩
  rw [d2Tree_eq]
  simp [scan, scanLayer, scanLeaves, scanEnts, d2Lit, scanArgsOk, checkEmptyRange, lexLt, findLayer,
    cfgD2, route, routeFrom, linkArgs, padTo, memcmp, memcmpMin]

/-- an `Inv` tree no operation produces: the second leaf's fence is the maximal tuple, so the
    right-to-left descent ends in the first leaf (head of `ScanR2L.lean`) -/
def r2lTree : Tree :=
  [⟨[], [⟨none, 1, 0, false, [⟨⟨[97, 0, 0, 0, 0, 0, 0, 0], 1⟩, some ⟨[], 8⟩⟩]⟩,
         ⟨some KT.max, 1, 0, false, [⟨KT.max, none⟩]⟩]⟩,
   ⟨[255, 255, 255, 255, 255, 255, 255, 255], [⟨none, 1, 0, false, [⟨⟨[120, 0, 0, 0, 0, 0, 0, 0], 1⟩, some ⟨[], 8⟩⟩]⟩]⟩]

theorem r2lTree_inv : Inv r2lTree := (checkInv_iff r2lTree).mp (by decide +kernel)

private theorem r2l_scan : (scan cfgFixed r2lTree [] .inf [] .inf 1 true).tuples = [([97], ⟨[], 8⟩)] := by
  simp [scan, scanLayer, scanLeaves, scanEnts, r2lTree, KT.max, scanArgsOk, checkEmptyRange, findLayer,
    cfgFixed, descentKT, route, routeFrom, routeLeft, beforeLeft, withinRight, memcmp]

private theorem r2l_spec :
    scanSpec r2lTree [] .inf [] .inf 1 true = [([255, 255, 255, 255, 255, 255, 255, 255, 120], ⟨[], 8⟩)] := by
  decide +kernel

/-- without `NoMaxFence` the right-to-left scan of an `Inv` tree can miss the greatest key -/
theorem r2l_max_fence_counterexample :
    ∃ t : Tree, Inv t ∧ scanArgsOk [] .inf [] .inf 1 true = true ∧
      (scan cfgFixed t [] .inf [] .inf 1 true).tuples ≠ scanSpec t [] .inf [] .inf 1 true := by
  refine ⟨r2lTree, r2lTree_inv, by decide, ?_⟩
  rw [r2l_scan, r2l_spec]
  decide

end Yak.Tree
