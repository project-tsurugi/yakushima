import YakModel.Proofs.InsertLemmas
/-!
# Descents through a changed storage: the generic comparison lemmas
-/
namespace Yak.Tree
open Yak

theorem lookF_congr_chain {F F' : List UInt8 → Option (List Leaf)} {q : List UInt8} (h : F' q = F q) (k : KT) :
    lookF F' q k = lookF F q k := by unfold lookF; rw [h]

theorem lookF_congr_ents {F F' : List UInt8 → Option (List Leaf)} {q : List UInt8} {ls ls' : List Leaf}
    (h : F q = some ls) (h' : F' q = some ls') (hc : LayerCore ls) (hc' : LayerCore ls') {k : KT}
    (hk : k.WF) (hsame : ∀ x, x.kt = k → (x ∈ layerEnts ls' ↔ x ∈ layerEnts ls)) :
    lookF F' q k = lookF F q k := by
  cases hl : lookF F q k with
  | none =>
    rw [lookF_none_iff h hc hk] at hl
    rw [lookF_none_iff h' hc' hk]
    intro e he hek
    exact hl e ((hsame e hek).mp he) hek
  | some e =>
    rw [lookF_some_iff h hc hk] at hl
    rw [lookF_some_iff h' hc' hk]
    exact ⟨(hsame e hl.2).mpr hl.1, hl.2⟩

/-- the descent diverges from the changed tuple `k` in layer `p`: nothing it sees has changed. -/
theorem walk_other {F F' : List UInt8 → Option (List Leaf)} {p : List UInt8} {ls ls' : List Leaf}
    (h : F p = some ls) (h' : F' p = some ls') (hc : LayerCore ls) (hc' : LayerCore ls') {k : KT}
    (hsame : ∀ x, x.kt ≠ k → (x ∈ layerEnts ls' ↔ x ∈ layerEnts ls))
    (hframe : ∀ s', s'.length = 8 → (⟨s', 9⟩ : KT) ≠ k → ∀ q, p ++ s' <+: q → F' q = F q)
    {rest' : Key} (hne : KT.ofKey rest' ≠ k) :
    walkM (lookF F') p rest' = walkM (lookF F) p rest' := by
  have hl : lookF F' p (KT.ofKey rest') = lookF F p (KT.ofKey rest') :=
    lookF_congr_ents h h' hc hc' (KT.ofKey_wf rest') (fun x hx => hsame x (by rw [hx]; exact hne))
  cases hm : lookF F p (KT.ofKey rest') with
  | none => rw [walkM_none hm, walkM_none (hl ▸ hm)]
  | some e =>
    by_cases hlong : rest'.length > 8
    · rw [walkM_long hm hlong, walkM_long (hl ▸ hm) hlong]
      apply walkM_congr
      intro q k' hq _
      apply lookF_congr_chain
      apply hframe (rest'.take 8) (by simp only [List.length_take]; omega) _ q hq
      rw [← ofKey_long hlong]; exact hne
    · rw [walkM_short hm hlong, walkM_short (hl ▸ hm) hlong]

theorem layerGet_leaf1 {e : Ent} (hw : e.kt.WF) (hv : e.val = none ↔ e.kt.len = 9) {k : KT} (hk : k.WF) :
    layerGet [leaf1 e] k = if k = e.kt then some e else none := by
  have hc := layerCore_leaf1 hw hv
  by_cases h : k = e.kt
  · rw [if_pos h, layerGet_some_iff hc hk, layerEnts_leaf1]
    exact ⟨by simp, h.symm⟩
  · rw [if_neg h, layerGet_none_iff hc hk, layerEnts_leaf1]
    intro x hx
    rw [List.mem_singleton] at hx; subst hx
    exact fun e => h e.symm

/-- for any lookup `M` that agrees with the fresh view below `q0`: the caller's view holds the
    old layers as well -/
theorem walk_fresh (v : Val) (M : List UInt8 → KT → Option Ent) : ∀ (r : Key) (q0 : List UInt8),
    (∀ q k, q0 <+: q → k.WF → M q k = lookF (lay (freshLayers q0 r v)) q k) →
    ∀ r', walkM M q0 r' = if r' = r then some v else none := by
  intro r
  induction hn : r.length using Nat.strongRecOn generalizing r with
  | _ n ih =>
    intro q0 hM r'
    have hlk : M q0 (KT.ofKey r') = if KT.ofKey r' = KT.ofKey r then some (entOf r v) else none := by
      rw [hM q0 _ (List.prefix_refl _) (KT.ofKey_wf r'), freshLayers_eq, lookF, lay_cons, if_pos rfl,
        ← entOf_kt r v]
      exact layerGet_leaf1 (entOf_kt r v ▸ KT.ofKey_wf r) (entOf_val r v) (KT.ofKey_wf r')
    by_cases hk : KT.ofKey r' = KT.ofKey r
    · rw [if_pos hk] at hlk
      by_cases hl : r.length > 8
      · obtain ⟨hl', htake⟩ := ofKey_eq_long hl hk
        rw [walkM_long hlk hl', htake, ih (r.drop 8).length (by rw [List.length_drop]; omega) (r.drop 8) rfl
          (q0 ++ r.take 8) ?_ (r'.drop 8)]
        · simp only [eq_iff_drop8 htake]
        · intro q k hq hk
          rw [hM q k ((List.prefix_append _ _).trans hq) hk, freshLayers_long v hl]
          apply lookF_congr_chain
          rw [lay_cons, if_neg]
          rintro rfl
          exact not_prefix_append_self _ _ (ne_nil_of_len8 (take8_len hl)) hq
      · have e := ofKey_eq_short hl hk
        subst e
        rw [walkM_short hlk hl, if_pos rfl, entOf, if_neg hl]
    · rw [if_neg hk] at hlk
      rw [walkM_none hlk, if_neg (fun e => hk (by rw [e]))]

end Yak.Tree
