import YakModel.Proto.LockOrder
/-!
# Proofs for `LockOrder` (C09)

`no_deadlock`: among the blocked threads take one whose awaited lock is maximal (w.r.t. the strict
lock order) among all awaited locks; the holder of that lock cannot itself be blocked, because the
discipline would force the lock it waits for to lie strictly above the maximal one.
-/
namespace Yak.Proto.LockOrder

theorem exists_maximal {α : Type} (R : α → α → Prop) (irrefl : ∀ a, ¬ R a a)
    (trans : ∀ a b c, R a b → R b c → R a c) :
    ∀ (l : List α), l ≠ [] → ∃ m ∈ l, ∀ x ∈ l, ¬ R m x := by
  intro l
  induction l with
  | nil => intro h; exact absurd rfl h
  | cons a tl ih =>
    intro _
    -- a maximal element of the tail that is not below `a` stays maximal; if there is none, `a` is
    by_cases h : ∃ m ∈ tl, (∀ x ∈ tl, ¬ R m x) ∧ ¬ R m a
    · obtain ⟨m, hm, hmax, hma⟩ := h
      refine ⟨m, List.mem_cons_of_mem _ hm, fun x hx => ?_⟩
      rcases List.mem_cons.mp hx with rfl | hx
      · exact hma
      · exact hmax x hx
    · refine ⟨a, List.mem_cons_self, fun x hx hax => ?_⟩
      rcases List.mem_cons.mp hx with rfl | hx
      · exact irrefl _ hax
      · obtain ⟨m, hm, hmax⟩ := ih (List.ne_nil_of_mem hx)
        exact h ⟨m, hm, hmax, fun hma => hmax x hx (trans _ _ _ hma hax)⟩

variable {L : Type}

theorem no_deadlock (lt : L → L → Prop)
    (irrefl : ∀ a, ¬ lt a a) (trans : ∀ a b c, lt a b → lt b c → lt a c)
    (s : Sys L) (wf : s.WellFormed) (disc : s.Ordered lt) (hne : s.blocked ≠ []) :
    ∃ t ∈ s.blocked, ∀ l, s.waits t = some l → ∀ u, s.holder l = some u → u ∉ s.blocked := by
  obtain ⟨_, hblk, _⟩ := wf
  have awaited : ∀ {t}, t ∈ s.blocked →
      ∃ l, s.waits t = some l ∧ l ∈ s.blocked.filterMap s.waits := fun ht =>
    let ⟨l, hl⟩ := (hblk _).mp ht
    ⟨l, hl, List.mem_filterMap.mpr ⟨_, ht, hl⟩⟩
  obtain ⟨t0, ht0⟩ := List.exists_mem_of_ne_nil _ hne
  obtain ⟨_, _, hl0⟩ := awaited ht0
  -- `m` is maximal among the awaited locks, `t` waits for it
  obtain ⟨m, hm, hmax⟩ := exists_maximal lt irrefl trans _ (List.ne_nil_of_mem hl0)
  obtain ⟨t, ht, hw⟩ := List.mem_filterMap.mp hm
  refine ⟨t, ht, fun l hl u hu hub => ?_⟩
  cases hw.symm.trans hl
  obtain ⟨l', hw', hl'⟩ := awaited hub
  exact hmax l' hl' (disc u l' hw' _ hu)

theorem lock_free_threads_block_nobody (s : Sys L) (t : Nat)
    (h : ∀ l, s.holder l ≠ some t) : ∀ u l, s.waits u = some l → s.holder l ≠ some t :=
  fun _ l _ => h l

/-- non-vacuity: thread 1 holds lock 5 and is running; thread 0 holds lock 3 and waits for 5. -/
def exSys : Sys Nat where
  holder := fun l => if l = 3 then some 0 else if l = 5 then some 1 else none
  waits := fun t => if t = 0 then some 5 else none
  blocked := [0]

theorem exSys_wellFormed : exSys.WellFormed := by
  refine ⟨by simp [exSys], fun t => ?_, fun t l hw => ?_⟩
  · by_cases h : t = 0 <;> simp [exSys, h]
  · simp only [exSys] at hw
    split at hw
    · next ht => cases hw; exact ⟨1, rfl, by omega⟩
    · cases hw

theorem exSys_ordered : exSys.Ordered (· < ·) := by
  intro t l hw h hh
  simp only [exSys] at hw hh
  -- only thread 0 waits, for 5, and it holds 3 alone
  split at hw
  · next ht =>
    cases hw; subst ht
    split at hh
    · subst h; decide
    · split at hh <;> cases hh
  · cases hw

example : exSys.WellFormed ∧ exSys.Ordered (· < ·) ∧ exSys.blocked ≠ [] :=
  ⟨exSys_wellFormed, exSys_ordered, by simp [exSys]⟩

end Yak.Proto.LockOrder
