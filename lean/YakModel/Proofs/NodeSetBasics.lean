import YakModel.Proto.NodeSet
/-!
# `NodeSet`: relational presentation and chain lemmas

The chain operations and the chain invariant `ChainInv`; then `Step`, the relational form of `step?`.
-/
namespace Yak.Proto.NodeSet

theorem upd_same {α} (f : Nat → α) (t : Nat) (v : α) : upd f t v t = v := by simp [upd]
theorem upd_other {α} (f : Nat → α) (t : Nat) (v : α) (i : Nat) (h : i ≠ t) : upd f t v i = f i := by
  simp [upd, h]

theorem upd_cases {α} (f : Nat → α) (t : Nat) (v : α) (i : Nat) :
    (i = t ∧ upd f t v i = v) ∨ (i ≠ t ∧ upd f t v i = f i) := by
  by_cases h : i = t
  · exact Or.inl ⟨h, by rw [h, upd_same]⟩
  · exact Or.inr ⟨h, upd_other f t v i h⟩

/-- a property that at most one thread's pc has stays so when `t` moves to a pc that shares it with no
    other thread -/
theorem upd_uniq {α β} {P : α → β → Prop} {w : Nat → α} {t : Nat} {x : α}
    (h : ∀ t1 t2 i, P (w t1) i → P (w t2) i → t1 = t2) (hx : ∀ t' i, t' ≠ t → P x i → ¬ P (w t') i) :
    ∀ t1 t2 i, P (upd w t x t1) i → P (upd w t x t2) i → t1 = t2 := by
  intro t1 t2 i h1 h2
  rcases upd_cases w t x t1 with ⟨ht1, e1⟩ | ⟨ht1, e1⟩ <;>
    rcases upd_cases w t x t2 with ⟨ht2, e2⟩ | ⟨ht2, e2⟩ <;> rw [e1] at h1 <;> rw [e2] at h2
  · exact ht1.trans ht2.symm
  · exact absurd h2 (hx t2 i ht2 h1)
  · exact absurd h1 (hx t1 i ht1 h2)
  · exact h t1 t2 i h1 h2

/-- the `Prop` form of `ownsB` (`ownsB_iff`) -/
def Owns (ch : List Leaf) (L : Leaf) (k : Nat) : Prop :=
  L.lo ≤ k ∧ ∀ M ∈ ch, L.lo < M.lo → k < M.lo

theorem ownsB_iff (ch : List Leaf) (L : Leaf) (k : Nat) : ownsB ch L k = true ↔ Owns ch L k := by
  simp only [ownsB, Owns, Bool.and_eq_true, decide_eq_true_eq, List.all_eq_true, Bool.or_eq_true,
    Decidable.imp_iff_not_or, Nat.not_lt]

theorem findLeaf_some {ch : List Leaf} {i : Nat} {L : Leaf} (h : findLeaf ch i = some L) :
    L ∈ ch ∧ L.id = i := by
  unfold findLeaf at h
  refine ⟨List.mem_of_find?_eq_some h, ?_⟩
  have := List.find?_some h
  simpa using this

theorem pairwise_inj {α : Type} {f : α → Nat} {l : List α}
    (h : l.Pairwise (fun a b => f a ≠ f b)) {a b : α} (ha : a ∈ l) (hb : b ∈ l)
    (e : f a = f b) : a = b :=
  List.Pairwise.forall_of_forall_of_flip (R := fun a b => f a = f b → a = b) (fun _ _ _ => rfl)
    (h.imp fun hne e => absurd e hne) (h.imp fun hne e => absurd e.symm hne) ha hb e

theorem mem_insertSorted {k x : Nat} {l : List Nat} : x ∈ insertSorted k l ↔ x = k ∨ x ∈ l := by
  unfold insertSorted
  simp only [List.mem_append, List.mem_filter, List.mem_cons, decide_eq_true_eq]
  constructor
  · rintro (⟨h1, _⟩ | rfl | ⟨h1, _⟩)
    · exact Or.inr h1
    · exact Or.inl rfl
    · exact Or.inr h1
  · rintro (rfl | h1)
    · exact Or.inr (Or.inl rfl)
    · rcases Nat.lt_trichotomy x k with h | rfl | h
      · exact Or.inl ⟨h1, h⟩
      · exact Or.inr (Or.inl rfl)
      · exact Or.inr (Or.inr ⟨h1, h⟩)

theorem pairwise_insertSorted {k : Nat} {l : List Nat} (h : l.Pairwise (· < ·)) :
    (insertSorted k l).Pairwise (· < ·) := by
  unfold insertSorted
  rw [List.pairwise_append, List.pairwise_cons]
  refine ⟨h.filter _, ⟨?_, h.filter _⟩, ?_⟩
  · intro x hx
    simpa using (List.mem_filter.mp hx).2
  · intro x hx y hy
    have hx' : x < k := by simpa using (List.mem_filter.mp hx).2
    rcases List.mem_cons.mp hy with rfl | hy'
    · exact hx'
    · have : k < y := by simpa using (List.mem_filter.mp hy').2
      omega

structure ChainInv (ch : List Leaf) (nid : Nat) : Prop where
  sorted : ch.Pairwise (fun L M => L.lo < M.lo)
  ids : ch.Pairwise (fun L M => L.id ≠ M.id)
  idlt : ∀ L ∈ ch, L.id < nid
  keysIn : ∀ L ∈ ch, ∀ k ∈ L.keys, Owns ch L k
  ksorted : ∀ L ∈ ch, L.keys.Pairwise (· < ·)

theorem ChainInv.eq_of_id {ch nid} (h : ChainInv ch nid) {L M : Leaf} (hL : L ∈ ch) (hM : M ∈ ch)
    (e : L.id = M.id) : L = M := pairwise_inj (f := Leaf.id) h.ids hL hM e

theorem ChainInv.eq_or_id_ne {ch nid} (h : ChainInv ch nid) {L M : Leaf} (hL : L ∈ ch) (hM : M ∈ ch) :
    M = L ∨ M.id ≠ L.id := by
  by_cases e : M.id = L.id
  · exact Or.inl (h.eq_of_id hM hL e)
  · exact Or.inr e

theorem ChainInv.eq_of_lo {ch nid} (h : ChainInv ch nid) {L M : Leaf} (hL : L ∈ ch) (hM : M ∈ ch)
    (e : L.lo = M.lo) : L = M :=
  pairwise_inj (f := Leaf.lo) (h.sorted.imp (fun hlt => Nat.ne_of_lt hlt)) hL hM e

theorem owner_lo_unique {ch : List Leaf} {L M : Leaf} {k : Nat} (hL : L ∈ ch) (hM : M ∈ ch)
    (h1 : Owns ch L k) (h2 : Owns ch M k) : L.lo = M.lo := by
  rcases Nat.lt_trichotomy L.lo M.lo with h | h | h
  · have := h1.2 M hM h; have := h2.1; omega
  · exact h
  · have := h2.2 L hL h; have := h1.1; omega

/-- ownership only depends on the set of fences -/
theorem Owns.of_los {ch ch' : List Leaf} {L L' : Leaf} {k : Nat} (h : Owns ch L k)
    (hlo : L'.lo = L.lo) (hsub : ∀ M' ∈ ch', ∃ M ∈ ch, M.lo = M'.lo) : Owns ch' L' k := by
  refine ⟨by rw [hlo]; exact h.1, fun M' hM' hlt => ?_⟩
  obtain ⟨M, hM, e⟩ := hsub M' hM'
  rw [← e]
  exact h.2 M hM (by rw [e, ← hlo]; exact hlt)

theorem mem_setLeaf {ch : List Leaf} {L L' M : Leaf} (hL : L ∈ ch) (hid : L'.id = L.id) :
    M ∈ setLeaf ch L' ↔ M = L' ∨ (M ∈ ch ∧ M.id ≠ L.id) := by
  unfold setLeaf
  rw [List.mem_map]
  constructor
  · rintro ⟨X, hX, rfl⟩
    by_cases h : X.id = L'.id
    · simp [h]
    · simp only [h, if_false]
      exact Or.inr ⟨hX, by rw [← hid]; exact h⟩
  · rintro (rfl | ⟨h1, h2⟩)
    · exact ⟨L, hL, by simp [hid]⟩
    · exact ⟨M, h1, by rw [hid]; simp [h2]⟩

theorem mem_setLeaf_self {ch : List Leaf} {L L' : Leaf} (hL : L ∈ ch) (hid : L'.id = L.id) :
    L' ∈ setLeaf ch L' := (mem_setLeaf hL hid).mpr (Or.inl rfl)

theorem mem_setLeaf_of_ne {ch : List Leaf} {L L' M : Leaf} (hL : L ∈ ch) (hid : L'.id = L.id)
    (hM : M ∈ ch) (hne : M.id ≠ L.id) : M ∈ setLeaf ch L' := (mem_setLeaf hL hid).mpr (Or.inr ⟨hM, hne⟩)

theorem setLeaf_los {ch : List Leaf} {L L' : Leaf} (hL : L ∈ ch)
    (hid : L'.id = L.id) (hlo : L'.lo = L.lo) :
    ∀ M' ∈ setLeaf ch L', ∃ M ∈ ch, M.lo = M'.lo := by
  intro M' hM'
  rcases (mem_setLeaf hL hid).mp hM' with rfl | ⟨h1, _⟩
  · exact ⟨L, hL, hlo.symm⟩
  · exact ⟨M', h1, rfl⟩

theorem chainInv_setLeaf {ch : List Leaf} {nid} (hc : ChainInv ch nid) {L L' : Leaf} (hL : L ∈ ch)
    (hid : L'.id = L.id) (hlo : L'.lo = L.lo) (hk : ∀ k ∈ L'.keys, Owns ch L k)
    (hs : L'.keys.Pairwise (· < ·)) : ChainInv (setLeaf ch L') nid := by
  have hf : ∀ M ∈ ch, (if M.id = L'.id then L' else M).lo = M.lo ∧
      (if M.id = L'.id then L' else M).id = M.id := by
    intro M hM
    by_cases h : M.id = L'.id
    · have : M = L := hc.eq_of_id hM hL (by rw [h, hid])
      subst this
      simp [h, hlo]
    · simp [h]
  have hsub := setLeaf_los hL hid hlo
  refine ⟨?_, ?_, ?_, ?_, ?_⟩
  · unfold setLeaf
    rw [List.pairwise_map]
    refine hc.sorted.imp_of_mem ?_
    intro A B hA hB hlt
    rw [(hf A hA).1, (hf B hB).1]; exact hlt
  · unfold setLeaf
    rw [List.pairwise_map]
    refine hc.ids.imp_of_mem ?_
    intro A B hA hB hne
    rw [(hf A hA).2, (hf B hB).2]; exact hne
  · intro M hM
    rcases (mem_setLeaf hL hid).mp hM with rfl | ⟨h1, _⟩
    · rw [hid]; exact hc.idlt L hL
    · exact hc.idlt M h1
  · intro M hM k hkM
    rcases (mem_setLeaf hL hid).mp hM with rfl | ⟨h1, _⟩
    · exact (hk k hkM).of_los hlo hsub
    · exact (hc.keysIn M h1 k hkM).of_los rfl hsub
  · intro M hM
    rcases (mem_setLeaf hL hid).mp hM with rfl | ⟨h1, _⟩
    · exact hs
    · exact hc.ksorted M h1

theorem mem_insAfter {ch : List Leaf} {i : Nat} {R M : Leaf} :
    M ∈ insAfter ch i R ↔ M ∈ ch ∨ (M = R ∧ ∃ L ∈ ch, L.id = i) := by
  induction ch with
  | nil => simp [insAfter]
  | cons X xs ih =>
    unfold insAfter
    by_cases h : X.id = i
    · simp only [h, if_true, List.mem_cons]
      constructor
      · rintro (rfl | rfl | h')
        · exact Or.inl (Or.inl rfl)
        · exact Or.inr ⟨rfl, X, Or.inl rfl, h⟩
        · exact Or.inl (Or.inr h')
      · rintro ((rfl | h') | ⟨rfl, _⟩)
        · exact Or.inl rfl
        · exact Or.inr (Or.inr h')
        · exact Or.inr (Or.inl rfl)
    · simp only [h, if_false, List.mem_cons, ih]
      constructor
      · rintro (rfl | h' | ⟨rfl, L, hL, e⟩)
        · exact Or.inl (Or.inl rfl)
        · exact Or.inl (Or.inr h')
        · exact Or.inr ⟨rfl, L, Or.inr hL, e⟩
      · rintro ((rfl | h') | ⟨rfl, L, hL | hL, e⟩)
        · exact Or.inl rfl
        · exact Or.inr (Or.inl h')
        · subst hL; exact absurd e h
        · exact Or.inr (Or.inr ⟨rfl, L, hL, e⟩)

theorem chain_cut {ch : List Leaf} {nid : Nat} (hc : ChainInv ch nid) {L : Leaf} (hL : L ∈ ch) :
    ∃ l1 l2, ch = l1 ++ L :: l2 ∧ (∀ X ∈ l1, X.id ≠ L.id ∧ X.lo < L.lo) ∧
      ∀ X ∈ l2, X.id ≠ L.id ∧ L.lo < X.lo := by
  obtain ⟨l1, l2, rfl⟩ := List.append_of_mem hL
  have hi := hc.ids
  have hs := hc.sorted
  rw [List.pairwise_append, List.pairwise_cons] at hi hs
  exact ⟨l1, l2, rfl, fun X hX => ⟨hi.2.2 X hX L List.mem_cons_self, hs.2.2 X hX L List.mem_cons_self⟩,
    fun X hX => ⟨(hi.2.1.1 X hX).symm, hs.2.1.1 X hX⟩⟩

theorem insAfter_cut {l1 l2 : List Leaf} {L R : Leaf} (h1 : ∀ X ∈ l1, X.id ≠ L.id) :
    insAfter (l1 ++ L :: l2) L.id R = l1 ++ L :: R :: l2 := by
  induction l1 with
  | nil => simp [insAfter]
  | cons X xs ih =>
    simp [insAfter, h1 X List.mem_cons_self, ih fun Y hY => h1 Y (List.mem_cons_of_mem _ hY)]

theorem nextOf_cut {l1 l2 : List Leaf} {L : Leaf} (h1 : ∀ X ∈ l1, X.id ≠ L.id) :
    nextOf (l1 ++ L :: l2) L.id = l2.head? := by
  induction l1 with
  | nil => simp [nextOf]
  | cons X xs ih =>
    simp [nextOf, h1 X List.mem_cons_self, ih fun Y hY => h1 Y (List.mem_cons_of_mem _ hY)]

/-- `r` survives putting `R` after `L` if `R` stands to the leaves on either side of `L` as `r` asks -/
theorem pairwise_insAfter {r : Leaf → Leaf → Prop} {ch : List Leaf} {nid : Nat} (hc : ChainInv ch nid)
    {L R : Leaf} (hL : L ∈ ch) (h : ch.Pairwise r) (h1 : ∀ X ∈ ch, X.lo < L.lo → r X R) (hLR : r L R)
    (h2 : ∀ X ∈ ch, L.lo < X.lo → r R X) : (insAfter ch L.id R).Pairwise r := by
  obtain ⟨l1, l2, rfl, c1, c2⟩ := chain_cut hc hL
  rw [insAfter_cut fun X hX => (c1 X hX).1]
  simp only [List.pairwise_append, List.pairwise_cons, List.mem_cons, forall_eq_or_imp] at h ⊢
  exact ⟨h.1, ⟨⟨hLR, h.2.1.1⟩, fun X hX => h2 X (by simp [hX]) (c2 X hX).2, h.2.1.2⟩,
    fun X hX => ⟨(h.2.2 X hX).1, h1 X (by simp [hX]) (c1 X hX).2, (h.2.2 X hX).2⟩⟩

theorem nextOf_spec {ch : List Leaf} {nid : Nat} (hc : ChainInv ch nid) {L : Leaf} (hL : L ∈ ch) :
    (nextOf ch L.id = none → ∀ M ∈ ch, M.lo ≤ L.lo) ∧
    (∀ n, nextOf ch L.id = some n → n ∈ ch ∧ L.lo < n.lo ∧ ∀ M ∈ ch, L.lo < M.lo → n.lo ≤ M.lo) := by
  have hs := hc.sorted
  obtain ⟨l1, l2, rfl, h1, h2⟩ := chain_cut hc hL
  rw [nextOf_cut fun X hX => (h1 X hX).1]
  have hright : ∀ M ∈ l1 ++ L :: l2, L.lo < M.lo → M ∈ l2 := by
    intro M hM hlt
    rcases List.mem_append.mp hM with h | h
    · have := (h1 M h).2; omega
    · rcases List.mem_cons.mp h with rfl | h
      · omega
      · exact h
  cases l2 with
  | nil =>
    exact ⟨fun _ M hM => Nat.le_of_not_lt fun hlt => (by cases hright M hM hlt), fun n hn => (by cases hn)⟩
  | cons n r =>
    refine ⟨fun hn => (by cases hn), fun n' hn' => ?_⟩
    cases hn'
    refine ⟨by simp, (h2 n List.mem_cons_self).2, fun M hM hlt => ?_⟩
    rw [List.pairwise_append, List.pairwise_cons, List.pairwise_cons] at hs
    rcases List.mem_cons.mp (hright M hM hlt) with rfl | h
    · exact Nat.le_refl _
    · exact Nat.le_of_lt (hs.2.1.2.1 M h)

/-- what `wSplit` does to leaf `L`: `L'` replaces it, `R` is the new right sibling. -/
structure SplitOf (ch : List Leaf) (nid : Nat) (L L' R : Leaf) (k : Nat) : Prop where
  hL : L ∈ ch
  id' : L'.id = L.id
  lo' : L'.lo = L.lo
  vins' : L'.vins = L.vins
  vsplit' : L'.vsplit = L.vsplit
  dirty' : L'.dirty = true
  locked' : L'.locked = L.locked
  rid : R.id = nid
  rlo : L.lo < R.lo
  rown : Owns ch L R.lo
  rlocked : R.locked = true
  keysL : ∀ x ∈ L'.keys, x < R.lo ∧ (x ∈ L.keys ∨ x = k)
  keysR : ∀ x ∈ R.keys, R.lo ≤ x ∧ (x ∈ L.keys ∨ x = k)
  keysAll : ∀ x, x ∈ L.keys ∨ x = k → x ∈ L'.keys ∨ x ∈ R.keys
  sortedL : L'.keys.Pairwise (· < ·)
  sortedR : R.keys.Pairwise (· < ·)

theorem split_keys {lo up kl kr : List Nat} {p k : Nat} (hs : (lo ++ p :: up).Pairwise (· < ·))
    (hl : kl = if k < p then insertSorted k lo else lo)
    (hr : kr = if k < p then p :: up else insertSorted k (p :: up)) :
    (∀ x ∈ kl, x < p ∧ (x ∈ lo ++ p :: up ∨ x = k)) ∧
    (∀ x ∈ kr, p ≤ x ∧ (x ∈ lo ++ p :: up ∨ x = k)) ∧
    (∀ x, x ∈ lo ++ p :: up ∨ x = k → x ∈ kl ∨ x ∈ kr) ∧
    kl.Pairwise (· < ·) ∧ kr.Pairwise (· < ·) := by
  subst hl hr
  rw [List.pairwise_append] at hs
  obtain ⟨sl, sr, hlt⟩ := hs
  have hl : ∀ x ∈ lo, x < p := fun x hx => hlt x hx p List.mem_cons_self
  have hp : ∀ x ∈ p :: up, p ≤ x := fun x hx => by
    rcases List.mem_cons.mp hx with rfl | hx
    · exact Nat.le_refl _
    · exact Nat.le_of_lt ((List.pairwise_cons.mp sr).1 x hx)
  by_cases hkp : k < p
  · simp only [hkp, if_true, mem_insertSorted, List.mem_append]
    refine ⟨?_, fun x hx => ⟨hp x hx, Or.inl (Or.inr hx)⟩, ?_, pairwise_insertSorted sl, sr⟩
    · rintro x (rfl | hx)
      · exact ⟨hkp, Or.inr rfl⟩
      · exact ⟨hl x hx, Or.inl (Or.inl hx)⟩
    · rintro x ((hx | hx) | rfl)
      · exact Or.inl (Or.inr hx)
      · exact Or.inr hx
      · exact Or.inl (Or.inl rfl)
  · simp only [hkp, if_false, mem_insertSorted, List.mem_append]
    refine ⟨fun x hx => ⟨hl x hx, Or.inl (Or.inl hx)⟩, ?_, ?_, sl, pairwise_insertSorted sr⟩
    · rintro x (rfl | hx)
      · exact ⟨by omega, Or.inr rfl⟩
      · exact ⟨hp x hx, Or.inl (Or.inr hx)⟩
    · rintro x ((hx | hx) | rfl)
      · exact Or.inl hx
      · exact Or.inr (Or.inr hx)
      · exact Or.inr (Or.inl rfl)

theorem splitOf_step {ch : List Leaf} {nid : Nat} (hc : ChainInv ch nid) {L : Leaf} (hL : L ∈ ch)
    {h p k : Nat} {up : List Nat} (hh : 1 ≤ h) (hdrop : L.keys.drop h = p :: up) :
    SplitOf ch nid L
      { L with dirty := true, keys := if k < p then insertSorted k (L.keys.take h) else L.keys.take h }
      { id := nid, lo := p, keys := if k < p then p :: up else insertSorted k (p :: up)
        vins := L.vins, vsplit := L.vsplit, locked := true, dirty := true } k := by
  have e : L.keys.take h ++ p :: up = L.keys := by rw [← hdrop, List.take_append_drop]
  have hsorted := hc.ksorted L hL
  rw [← e] at hsorted
  obtain ⟨hkl, hkr, hall, sl, sr⟩ := split_keys (k := k) hsorted rfl rfl
  rw [e] at hkl hkr hall
  have hpmem : p ∈ L.keys := e ▸ List.mem_append_right _ List.mem_cons_self
  refine { hL := hL, id' := rfl, lo' := rfl, vins' := rfl, vsplit' := rfl, dirty' := rfl,
           locked' := rfl, rid := rfl, rlo := ?_, rown := hc.keysIn L hL p hpmem,
           rlocked := rfl, keysL := hkl, keysR := hkr, keysAll := hall, sortedL := sl, sortedR := sr }
  -- the lower part is not empty: its first key is below `p`
  show L.lo < p
  obtain ⟨h', rfl⟩ : ∃ h', h = h' + 1 := ⟨h - 1, by omega⟩
  cases hk : L.keys with
  | nil => rw [hk] at hpmem; cases hpmem
  | cons x0 tl =>
    rw [hk] at hsorted
    have := (List.pairwise_cons.mp hsorted).1 p (by simp)
    have := (hc.keysIn L hL x0 (hk ▸ List.mem_cons_self)).1
    omega

theorem mem_split {ch : List Leaf} {nid : Nat} {L L' R M : Leaf} {k : Nat}
    (sp : SplitOf ch nid L L' R k) :
    M ∈ insAfter (setLeaf ch L') L.id R ↔ M = R ∨ M = L' ∨ (M ∈ ch ∧ M.id ≠ L.id) := by
  rw [mem_insAfter, mem_setLeaf sp.hL sp.id']
  constructor
  · rintro (h | ⟨rfl, _⟩)
    · exact Or.inr h
    · exact Or.inl rfl
  · rintro (rfl | h)
    · exact Or.inr ⟨rfl, L', mem_setLeaf_self sp.hL sp.id', sp.id'⟩
    · exact Or.inl h

theorem split_los {ch : List Leaf} {nid : Nat} {L L' R : Leaf} {k : Nat}
    (sp : SplitOf ch nid L L' R k) :
    ∀ M' ∈ insAfter (setLeaf ch L') L.id R, M' = R ∨ ∃ M ∈ ch, M.lo = M'.lo ∧ M.id = M'.id := by
  intro M' hM'
  rcases (mem_split sp).mp hM' with rfl | rfl | ⟨h1, _⟩
  · exact Or.inl rfl
  · exact Or.inr ⟨L, sp.hL, sp.lo'.symm, sp.id'.symm⟩
  · exact Or.inr ⟨M', h1, rfl, rfl⟩

theorem Owns.split_other {ch : List Leaf} {nid : Nat} (hc : ChainInv ch nid) {L L' R : Leaf} {k : Nat}
    (sp : SplitOf ch nid L L' R k) {M : Leaf} (hM : M ∈ ch) (hne : M.id ≠ L.id) {x : Nat}
    (ho : Owns ch M x) : Owns (insAfter (setLeaf ch L') L.id R) M x := by
  refine ⟨ho.1, fun M' hM' hlt => ?_⟩
  rcases split_los sp M' hM' with rfl | ⟨M0, hM0, e, _⟩
  · -- M.lo < R.lo: then M is left of L
    have hne' : M.lo ≠ L.lo := fun e => hne (by rw [hc.eq_of_lo hM sp.hL e])
    rcases Nat.lt_or_gt_of_ne hne' with h | h
    · have := ho.2 L sp.hL h
      have := sp.rlo
      omega
    · have := sp.rown.2 M hM h
      omega
  · rw [← e]; exact ho.2 M0 hM0 (by rw [e]; exact hlt)

theorem chainInv_split {ch : List Leaf} {nid : Nat} (hc : ChainInv ch nid) {L L' R : Leaf} {k : Nat}
    (sp : SplitOf ch nid L L' R k) (hok : Owns ch L k) :
    ChainInv (insAfter (setLeaf ch L') L.id R) (nid + 1) := by
  have hownL : ∀ x, x ∈ L.keys ∨ x = k → Owns ch L x := by
    rintro x (hx | rfl)
    · exact hc.keysIn L sp.hL x hx
    · exact hok
  have hc1 : ChainInv (setLeaf ch L') nid :=
    chainInv_setLeaf hc sp.hL sp.id' sp.lo' (fun x hx => hownL x (sp.keysL x hx).2) sp.sortedL
  have hL' := mem_setLeaf_self sp.hL sp.id'
  have hfresh : ∀ X ∈ setLeaf ch L', X.id ≠ R.id := fun X hX => by
    have := hc1.idlt X hX; rw [sp.rid]; omega
  refine ⟨?_, ?_, ?_, ?_, ?_⟩
  · rw [← sp.id']
    refine pairwise_insAfter hc1 hL' hc1.sorted (fun X _ hlt => ?_) (by rw [sp.lo']; exact sp.rlo)
      fun X hX hlt => ?_
    · have := sp.rlo; rw [sp.lo'] at hlt; omega
    · obtain ⟨M0, hM0, e0⟩ := setLeaf_los sp.hL sp.id' sp.lo' X hX
      rw [← e0]; exact sp.rown.2 M0 hM0 (by rw [e0, ← sp.lo']; exact hlt)
  · rw [← sp.id']
    exact pairwise_insAfter hc1 hL' hc1.ids (fun X hX _ => hfresh X hX) (hfresh L' hL')
      fun X hX _ => (hfresh X hX).symm
  · intro M hM
    rcases (mem_split sp).mp hM with rfl | rfl | ⟨h1, _⟩
    · rw [sp.rid]; omega
    · rw [sp.id']; have := hc.idlt L sp.hL; omega
    · have := hc.idlt M h1; omega
  · intro M hM x hx
    rcases (mem_split sp).mp hM with rfl | rfl | ⟨h1, h2⟩
    · obtain ⟨hle, hmem⟩ := sp.keysR x hx
      refine ⟨hle, fun M' hM' hlt => ?_⟩
      rcases split_los sp M' hM' with rfl | ⟨M0, hM0, e, _⟩
      · omega
      · rw [← e]
        exact (hownL x hmem).2 M0 hM0 (by have := sp.rlo; omega)
    · obtain ⟨hlt', hmem⟩ := sp.keysL x hx
      refine ⟨by rw [sp.lo']; exact (hownL x hmem).1, fun M' hM' hlt => ?_⟩
      rcases split_los sp M' hM' with rfl | ⟨M0, hM0, e, _⟩
      · exact hlt'
      · rw [← e]
        exact (hownL x hmem).2 M0 hM0 (by rw [e, ← sp.lo']; exact hlt)
    · exact (hc.keysIn M h1 x hx).split_other hc sp h1 h2
  · intro M hM
    rcases (mem_split sp).mp hM with rfl | rfl | ⟨h1, _⟩
    · exact sp.sortedR
    · exact sp.sortedL
    · exact hc.ksorted M h1

/-! `Step` over-approximates `step?` (`step?_sound`): a move records what the invariants use, no
more. A scanner move changes one scanner's pc and nothing else: a relation `SStep` between pcs. -/

inductive SStep (ch : List Leaf) : SPc → SPc → Prop
  | start (a b : Nat) : SStep ch .idle (.want a b)
  | enter (a b : Nat) (L : Leaf) (hL : L ∈ ch) (hown : Owns ch L a) :
      SStep ch (.want a b) (.run a b [] [] L.id .fresh)
  | load (a b : Nat) (ks : List Nat) (ns : List NodeRec) (ph : Phase) (L : Leaf) (hL : L ∈ ch) :
      SStep ch (.run a b ks ns L.id ph) (.run a b ks ns L.id (.loaded L.vins L.vsplit))
  | snapshot (a b : Nat) (ks : List Nat) (ns : List NodeRec) (vi vs : Nat) (L : Leaf) (hL : L ∈ ch) :
      SStep ch (.run a b ks ns L.id (.loaded vi vs))
        (.run a b ks ns L.id (.snapped vi vs (L.keys.filter (inRange a b))))
  | restart (a b : Nat) (ks : List Nat) (ns : List NodeRec) (cur : Nat) (ph : Phase) :
      SStep ch (.run a b ks ns cur ph) (.want a b)
  /-- `L` validates and no fence lies in `(L.lo, b]` -/
  | finish (a b : Nat) (ks : List Nat) (ns : List NodeRec) (snap : List Nat) (L : Leaf) (hL : L ∈ ch)
      (hd : L.dirty = false) (hnext : ∀ M ∈ ch, L.lo < M.lo → b + 1 ≤ M.lo) :
      SStep ch (.run a b ks ns L.id (.snapped L.vins L.vsplit snap))
        (.fin a b (ks ++ snap) (ns ++ [(L.id, L.vins, L.vsplit)]))
  /-- `L` validates and `n` has the next fence -/
  | advance (a b : Nat) (ks : List Nat) (ns : List NodeRec) (snap : List Nat) (L n : Leaf) (hL : L ∈ ch)
      (hd : L.dirty = false) (hn : n ∈ ch) (hlt : L.lo < n.lo)
      (hmin : ∀ M ∈ ch, L.lo < M.lo → n.lo ≤ M.lo) :
      SStep ch (.run a b ks ns L.id (.snapped L.vins L.vsplit snap))
        (.run a b (ks ++ snap) (ns ++ [(L.id, L.vins, L.vsplit)]) n.id .fresh)

inductive WStep (s : State) : State → Prop
  | lock (t k : Nat) (L : Leaf) (hw : s.w t = .idle) (hL : L ∈ s.chain) (hul : L.locked = false)
      (hown : Owns s.chain L k) (hk : k ∉ L.keys) :
      WStep s { s with chain := setLeaf s.chain { L with locked := true }
                       w := upd s.w t (.held k L.id) }
  | insert (t k : Nat) (L : Leaf) (hw : s.w t = .held k L.id) (hL : L ∈ s.chain) :
      WStep s { s with chain := setLeaf s.chain { L with dirty := true, keys := insertSorted k L.keys }
                       w := upd s.w t (.published k L.id) }
  | unlock (t k : Nat) (L : Leaf) (hw : s.w t = .published k L.id) (hL : L ∈ s.chain) :
      WStep s { s with chain := setLeaf s.chain { L with locked := false, dirty := false, vins := L.vins + 1 }
                       w := upd s.w t .idle
                       completed := k :: s.completed }
  | split (t k : Nat) (L : Leaf) (h p : Nat) (up : List Nat) (hw : s.w t = .held k L.id)
      (hL : L ∈ s.chain) (hh : 1 ≤ h) (hdrop : L.keys.drop h = p :: up) :
      WStep s { s with
        chain := insAfter (setLeaf s.chain { L with dirty := true, keys := if k < p then insertSorted k (L.keys.take h) else L.keys.take h }) L.id
          { id := s.nextId, lo := p, keys := if k < p then p :: up else insertSorted k (p :: up)
            vins := L.vins, vsplit := L.vsplit, locked := true, dirty := true }
        nextId := s.nextId + 1
        w := upd s.w t (.splitDone k L.id s.nextId) }
  | unlockL (t k j : Nat) (L : Leaf) (hw : s.w t = .splitDone k L.id j) (hL : L ∈ s.chain) :
      WStep s { s with chain := setLeaf s.chain { L with locked := false, dirty := false, vins := L.vins + 1, vsplit := L.vsplit + 1 }
                       w := upd s.w t (.splitHalf k j) }
  | unlockR (t k : Nat) (L : Leaf) (hw : s.w t = .splitHalf k L.id) (hL : L ∈ s.chain) :
      WStep s { s with chain := setLeaf s.chain { L with locked := false, dirty := false, vins := L.vins + 1, vsplit := L.vsplit + 1 }
                       w := upd s.w t .idle
                       completed := k :: s.completed }

inductive Step (s : State) : State → Prop
  | writer {s' : State} (h : WStep s s') : Step s s'
  | scanner (t : Nat) (pc' : SPc) (h : SStep s.chain (s.sc t) pc') :
      Step s { s with sc := upd s.sc t pc' }

theorem splitPoint_pos (c : Cfg) : 1 ≤ splitPoint c := by
  unfold splitPoint; omega

theorem WStep.sc_eq {s s' : State} (h : WStep s s') : s'.sc = s.sc := by
  cases h <;> rfl

theorem step?_sound {c : Cfg} {s s' : State} {e : Event} (hc : ChainInv s.chain s.nextId)
    (h : step? c s e = some s') : Step s s' := by
  revert h
  -- one goal per branch of `step?`: where it returns `none` there is nothing to show
  fun_cases step? c s e <;> intro h <;> cases h
  next t k i L hf hw hg =>
    obtain ⟨hL, rfl⟩ := findLeaf_some hf
    simp only [Bool.and_eq_true, Bool.not_eq_true', ownsB_iff] at hg
    exact .writer (.lock t k L hw hL hg.1.1 hg.1.2 (by simpa using hg.2))
  next t k i hw L hf _ =>
    obtain ⟨hL, rfl⟩ := findLeaf_some hf
    exact .writer (.insert t k L hw hL)
  next t k i hw L hf =>
    obtain ⟨hL, rfl⟩ := findLeaf_some hf
    exact .writer (.unlock t k L hw hL)
  next t k i hw L hf _ p up hd _ _ _ =>
    obtain ⟨hL, rfl⟩ := findLeaf_some hf
    exact .writer (.split t k L (splitPoint c) p up hw hL (splitPoint_pos c) hd)
  next t k i j hw L hf =>
    obtain ⟨hL, rfl⟩ := findLeaf_some hf
    exact .writer (.unlockL t k j L hw hL)
  next t k j hw L hf =>
    obtain ⟨hL, rfl⟩ := findLeaf_some hf
    exact .writer (.unlockR t k L hw hL)
  next t a b hs => exact .scanner t _ (hs ▸ .start a b)
  next t i a b L hf hs hown =>
    obtain ⟨hL, rfl⟩ := findLeaf_some hf
    exact .scanner t _ (hs ▸ .enter a b L hL ((ownsB_iff _ _ _).mp hown))
  next t a b ks ns cur hs L hf _ =>
    obtain ⟨hL, rfl⟩ := findLeaf_some hf
    exact .scanner t _ (hs ▸ .load a b ks ns _ L hL)
  next t a b ks ns cur vi vs hs L hf =>
    obtain ⟨hL, rfl⟩ := findLeaf_some hf
    exact .scanner t _ (hs ▸ .snapshot a b ks ns vi vs L hL)
  next t a b ks ns cur vi vs snap hs L hf _ _ =>
    exact .scanner t _ (hs ▸ .restart a b ks ns _ _)
  next t a b ks ns cur vi vs snap hs L hf _ _ _ =>
    obtain ⟨hL, rfl⟩ := findLeaf_some hf
    exact .scanner t _ (hs ▸ .load a b ks ns _ L hL)
  next t a b ks ns cur vi vs snap hs L hf hst hvs hvi hn =>
    obtain ⟨hL, rfl⟩ := findLeaf_some hf
    obtain rfl := Decidable.not_not.mp hvs
    obtain rfl := Decidable.not_not.mp hvi
    simp only [Bool.or_eq_true, not_or, Bool.not_eq_true] at hst
    exact .scanner t _ (hs ▸ .finish a b ks ns snap L hL hst.2 fun M hM hlt => by
      have := (nextOf_spec hc hL).1 hn M hM; omega)
  next t a b ks ns cur vi vs snap hs L hf hst hvs hvi n hn hb =>
    obtain ⟨hL, rfl⟩ := findLeaf_some hf
    obtain rfl := Decidable.not_not.mp hvs
    obtain rfl := Decidable.not_not.mp hvi
    simp only [Bool.or_eq_true, not_or, Bool.not_eq_true] at hst
    exact .scanner t _ (hs ▸ .finish a b ks ns snap L hL hst.2 fun M hM hlt => by
      have := ((nextOf_spec hc hL).2 n hn).2.2 M hM hlt; omega)
  next t a b ks ns cur vi vs snap hs L hf hst hvs hvi n hn hb =>
    obtain ⟨hL, rfl⟩ := findLeaf_some hf
    obtain rfl := Decidable.not_not.mp hvs
    obtain rfl := Decidable.not_not.mp hvi
    simp only [Bool.or_eq_true, not_or, Bool.not_eq_true] at hst
    obtain ⟨hnm, hlt, hmin⟩ := (nextOf_spec hc hL).2 n hn
    exact .scanner t _ (hs ▸ .advance a b ks ns snap L n hL hst.2 hnm hlt hmin)

end Yak.Proto.NodeSet
