import YakModel.Route
import YakModel.Proofs.LayerLemmas
/-!
# The order facts of a flattened chain

`chainOf t lo` turns a dumped B+-tree into the fenced leaf chain of the proof model. `ChainOrd ch hi`
collects what `checkChain` evaluates about order on such a chain, below an upper bound `hi`, in a
form that splits over `++`: per leaf (`LeafOrd`) the fence and the entries are well formed, the
entries strictly increasing, at or above the fence and below `hi`; between two leaves (`Below`) the
right one has a fence, above the left one's fence and entries.
-/
namespace Yak.Route
open Yak Yak.Shape
open Yak.Tree (lt_asymm le_lt_trans)

mutual
theorem routeWF_of_check : ∀ (t : BTree), checkInteriors t = true → RouteWF t
  | .border _ _, _ => by simp only [RouteWF]
  | .interior v ks cs, h => by
    simp only [checkInteriors, Bool.and_eq_true, beq_iff_eq, List.all_eq_true,
      decide_eq_true_eq] at h
    simp only [RouteWF]
    obtain ⟨⟨⟨⟨⟨⟨_, _⟩, hlen⟩, hsorted⟩, hwf⟩, _⟩, hcs⟩ := h
    exact ⟨hlen, hsorted, fun s hs => (hwf s hs).1, routeWFList_of_check cs hcs⟩

theorem routeWFList_of_check : ∀ (cs : List BTree), checkInteriorsList cs = true → RouteWFList cs
  | [], _ => by simp only [RouteWFList]
  | c :: cs, h => by
    simp only [checkInteriorsList, Bool.and_eq_true] at h
    simp only [RouteWFList]
    exact ⟨routeWF_of_check c h.1, routeWFList_of_check cs h.2⟩
end

mutual
/-- the chain of a `RouteWF` tree starts with a leaf whose fence is the inherited lower bound, and
    every other leaf has a fence. -/
theorem chainOf_shape : ∀ (t : BTree) (lo : Option KT), RouteWF t →
    ∃ v e rest, chainOf t lo = ⟨lo, v, e⟩ :: rest ∧ ∀ l ∈ rest, l.fence.isSome = true
  | .border v ents, lo, _ => ⟨v, ents, [], by simp [chainOf]⟩
  | .interior v ks cs, lo, h => by
    simp only [RouteWF] at h
    simp only [chainOf]
    exact chainOfChildren_shape cs ks lo h.2.2.2 h.1

theorem chainOfChildren_shape : ∀ (cs : List BTree) (ks : List KT) (lo : Option KT),
    RouteWFList cs → cs.length = ks.length + 1 →
    ∃ v e rest, chainOfChildren cs ks lo = ⟨lo, v, e⟩ :: rest ∧ ∀ l ∈ rest, l.fence.isSome = true
  | [], _, _, _, hl => by simp at hl
  | c :: cs, ks, lo, h, hl => by
    simp only [RouteWFList] at h
    obtain ⟨v, e, rest, hc, hr⟩ := chainOf_shape c lo h.1
    simp only [chainOfChildren, hc]
    cases ks with
    | nil =>
      have : cs = [] := List.eq_nil_of_length_eq_zero (by simpa using hl)
      subst this
      exact ⟨v, e, rest, by simp [chainOfChildren], hr⟩
    | cons s ks' =>
      obtain ⟨v', e', rest', hc', hr'⟩ :=
        chainOfChildren_shape cs ks' (some s) h.2 (by simpa using hl)
      refine ⟨v, e, rest ++ ⟨some s, v', e'⟩ :: rest', by simp [hc'], ?_⟩
      intro l hl'
      rcases List.mem_append.mp hl' with h1 | h1
      · exact hr l h1
      · rcases List.mem_cons.mp h1 with h2 | h2
        · rw [h2]; rfl
        · exact hr' l h2
end

theorem chainOf_ne_nil (t : BTree) (lo : Option KT) (h : RouteWF t) : chainOf t lo ≠ [] := by
  obtain ⟨v, e, rest, hc, _⟩ := chainOf_shape t lo h
  rw [hc]; simp

theorem pairwise_of_sortedKTs : ∀ (ks : List KT), (∀ k ∈ ks, k.WF) → sortedKTs ks = true →
    ks.Pairwise (fun a b => KT.ltSpec a b = true)
  | [], _, _ => List.Pairwise.nil
  | [a], _, _ => by simp
  | a :: b :: rest, hw, h => by
    simp only [sortedKTs, Bool.and_eq_true, ktLt] at h
    have ih := pairwise_of_sortedKTs (b :: rest) (fun k hk => hw k (by simp [hk])) h.2
    have hab : KT.ltSpec a b = true := by
      rw [← KT.lt_eq_ltSpec a b (hw a (by simp)) (hw b (by simp))]; exact h.1
    refine List.pairwise_cons.mpr ⟨?_, ih⟩
    intro x hx
    rcases List.mem_cons.mp hx with e | e
    · rw [e]; exact hab
    · exact KT.ltSpec_trans a b x hab ((List.pairwise_cons.mp ih).1 x e)

theorem sortedKTs_of_pairwise : ∀ (ks : List KT), (∀ k ∈ ks, k.WF) →
    ks.Pairwise (fun a b => KT.ltSpec a b = true) → sortedKTs ks = true
  | [], _, _ => rfl
  | [a], _, _ => rfl
  | a :: b :: rest, hw, h => by
    rw [List.pairwise_cons] at h
    simp only [sortedKTs, Bool.and_eq_true, ktLt]
    refine ⟨?_, sortedKTs_of_pairwise (b :: rest) (fun k hk => hw k (by simp [hk])) h.2⟩
    rw [KT.lt_eq_ltSpec a b (hw a (by simp)) (hw b (by simp))]
    exact h.1 b (by simp)

/-- `lo ≤ k` (no bound = −∞) -/
def geLo (lo : Option KT) (k : KT) : Prop := ∀ f, lo = some f → KT.ltSpec k f = false
/-- `lo < k` -/
def gtLo (lo : Option KT) (k : KT) : Prop := ∀ f, lo = some f → KT.ltSpec f k = true
/-- `k < hi` (no bound = +∞) -/
def ltHi (k : KT) (hi : Option KT) : Prop := ∀ h, hi = some h → KT.ltSpec k h = true

structure LeafOrd (l : DLeaf) (hi : Option KT) : Prop where
  fence : ∀ f, l.fence = some f → f.WF ∧ ltHi f hi
  ents : ∀ e ∈ l.ents, e.kt.WF ∧ geLo l.fence e.kt ∧ ltHi e.kt hi
  sorted : l.ents.Pairwise (fun a b => KT.ltSpec a.kt b.kt = true)

def Below (a b : DLeaf) : Prop :=
  ∃ g, b.fence = some g ∧ gtLo a.fence g ∧ ∀ e ∈ a.ents, KT.ltSpec e.kt g = true

structure ChainOrd (ch : List DLeaf) (hi : Option KT) : Prop where
  leaf : ∀ l ∈ ch, LeafOrd l hi
  below : ch.Pairwise Below

theorem LeafOrd.mono {l : DLeaf} {g : KT} {hi : Option KT} (h : LeafOrd l (some g))
    (hg : ltHi g hi) : LeafOrd l hi :=
  ⟨fun f hf => ⟨(h.fence f hf).1, fun m hm =>
      KT.ltSpec_trans _ _ _ ((h.fence f hf).2 g rfl) (hg m hm)⟩,
    fun e he => ⟨(h.ents e he).1, (h.ents e he).2.1, fun m hm =>
      KT.ltSpec_trans _ _ _ ((h.ents e he).2.2 g rfl) (hg m hm)⟩,
    h.sorted⟩

theorem LeafOrd.of_below {x y : DLeaf} {hi : Option KT} (hx : LeafOrd x hi) (h : Below x y) :
    LeafOrd x y.fence := by
  obtain ⟨g, hg, hf, he⟩ := h
  rw [hg]
  exact ⟨fun f hf' => ⟨(hx.fence f hf').1, fun m hm => by cases hm; exact hf f hf'⟩,
    fun e he' => ⟨(hx.ents e he').1, (hx.ents e he').2.1, fun m hm => by cases hm; exact he e he'⟩,
    hx.sorted⟩

theorem ChainOrd.sublist {ch ch' : List DLeaf} {hi : Option KT} (h : ChainOrd ch hi)
    (hs : ch'.Sublist ch) : ChainOrd ch' hi :=
  ⟨fun l hl => h.leaf l (hs.subset hl), h.below.sublist hs⟩

theorem ChainOrd.cons {l : DLeaf} {B : List DLeaf} {hi : Option KT} (hl : LeafOrd l hi)
    (hb : ∀ b ∈ B, Below l b) (hB : ChainOrd B hi) : ChainOrd (l :: B) hi := by
  refine ⟨fun x hx => ?_, List.pairwise_cons.mpr ⟨hb, hB.below⟩⟩
  rcases List.mem_cons.mp hx with e | e
  · rw [e]; exact hl
  · exact hB.leaf x e

theorem ChainOrd.uncons {l : DLeaf} {B : List DLeaf} {hi : Option KT} (h : ChainOrd (l :: B) hi) :
    LeafOrd l hi ∧ (∀ b ∈ B, Below l b) ∧ ChainOrd B hi :=
  ⟨h.leaf l (by simp), (List.pairwise_cons.mp h.below).1, h.sublist (List.sublist_cons_self _ _)⟩

theorem ChainOrd.left {X Y : List DLeaf} {y : DLeaf} {hi : Option KT}
    (h : ChainOrd (X ++ y :: Y) hi) : ChainOrd X y.fence :=
  ⟨fun l hl => (h.leaf l (List.mem_append_left _ hl)).of_below
      ((List.pairwise_append.mp h.below).2.2 l hl y (by simp)),
    (List.pairwise_append.mp h.below).1⟩

/-- `Below` demands a fence of every leaf that has something to its left: hence `hy`. -/
theorem ChainOrd.append {X Y : List DLeaf} {y0 : DLeaf} {hi : Option KT}
    (hX : ChainOrd X y0.fence) (hY : ChainOrd (y0 :: Y) hi)
    (hy : X = [] ∨ ∃ g, y0.fence = some g) : ChainOrd (X ++ y0 :: Y) hi := by
  rcases hy with hy | ⟨g0, hg0⟩
  · subst hy; exact hY
  rw [hg0] at hX
  refine ⟨?_, List.pairwise_append.mpr ⟨hX.below, hY.below, ?_⟩⟩
  · intro l hl
    rcases List.mem_append.mp hl with e | e
    · exact (hX.leaf l e).mono ((hY.leaf y0 (by simp)).fence g0 hg0).2
    · exact hY.leaf l e
  · -- `x` is below `g0`, which is the fence of `y0` and below every later fence
    intro x hx y hy
    obtain ⟨g, hg, hgg⟩ : ∃ g, y.fence = some g ∧ (g = g0 ∨ KT.ltSpec g0 g = true) := by
      rcases List.mem_cons.mp hy with e | e
      · rw [e]; exact ⟨g0, hg0, Or.inl rfl⟩
      · obtain ⟨g, hg, hgt, _⟩ := hY.uncons.2.1 y e
        exact ⟨g, hg, Or.inr (hgt g0 hg0)⟩
    have up : ∀ {k : KT}, KT.ltSpec k g0 = true → KT.ltSpec k g = true := by
      intro k hk
      rcases hgg with e | e
      · rw [e]; exact hk
      · exact KT.ltSpec_trans _ _ _ hk e
    exact ⟨g, hg, fun f hf => up (((hX.leaf x hx).fence f hf).2 g0 rfl),
      fun e he => up (((hX.leaf x hx).ents e he).2.2 g0 rfl)⟩

/-- the part of a chain from the leaf `l` on may be exchanged for a chain starting at `l`'s fence -/
theorem ChainOrd.splice {A B N : List DLeaf} {l n : DLeaf} {hi : Option KT}
    (h : ChainOrd (A ++ l :: B) hi) (hf : n.fence = l.fence) (hN : ChainOrd (n :: N) hi) :
    ChainOrd (A ++ n :: N) hi := by
  refine ChainOrd.append (hf ▸ h.left) hN ?_
  cases A with
  | nil => exact Or.inl rfl
  | cons a as =>
    obtain ⟨g, hg, _⟩ := (List.pairwise_append.mp h.below).2.2 a (by simp) l (by simp)
    exact Or.inr ⟨g, hf ▸ hg⟩

/-- a leaf may be cut in two in front of any entry but the first; that entry's tuple is the fence
    of the right part -/
theorem ChainOrd.splitLeaf {f : Option KT} {v : DVer} {L R : List DEnt} {r : DEnt}
    {B : List DLeaf} {hi : Option KT} (h : ChainOrd (⟨f, v, L ++ r :: R⟩ :: B) hi) (hL : L ≠ []) :
    ChainOrd (⟨f, v, L⟩ :: ⟨some r.kt, v, r :: R⟩ :: B) hi := by
  obtain ⟨hl, hb, hB⟩ := h.uncons
  have hs := List.pairwise_append.mp hl.sorted
  have hr := hl.ents r (by simp)
  obtain ⟨y, hy⟩ := List.exists_mem_of_ne_nil L hL
  have hfr : gtLo f r.kt := fun g hg =>
    le_lt_trans (hl.fence g hg).1 hr.1 ((hl.ents y (by simp [hy])).2.1 g hg) (hs.2.2 y hy r (by simp))
  refine .cons ⟨hl.fence, fun x hx => hl.ents x (by simp [hx]), hs.1⟩ ?_
    (.cons ⟨?_, ?_, hs.2.1⟩ ?_ hB)
  · intro b hb'
    rcases List.mem_cons.mp hb' with e | e
    · rw [e]; exact ⟨r.kt, rfl, hfr, fun x hx => hs.2.2 x hx r (by simp)⟩
    · obtain ⟨g, hg, hgt, he⟩ := hb b e
      exact ⟨g, hg, hgt, fun x hx => he x (by simp [hx])⟩
  · intro g hg; cases hg; exact ⟨hr.1, hr.2.2⟩
  · intro x hx
    refine ⟨(hl.ents x (by simp [hx])).1, ?_, (hl.ents x (by simp [hx])).2.2⟩
    intro g hg; cases hg
    rcases List.mem_cons.mp hx with e | e
    · rw [e]; exact KT.ltSpec_irrefl _
    · exact lt_asymm ((List.pairwise_cons.mp hs.2.1).1 x e)
  · intro b hb'
    obtain ⟨g, hg, _, he⟩ := hb b hb'
    exact ⟨g, hg, fun g' hg' => by cases hg'; exact he r (by simp), fun x hx => he x (by simp [hx])⟩

theorem ChainOrd.fencesSorted {ch : List DLeaf} {hi : Option KT} (h : ChainOrd ch hi) :
    fencesSorted ch := by
  unfold Route.fencesSorted
  refine List.Pairwise.imp_of_mem ?_ h.below
  intro a b ha hb ⟨g, hg, hgt, _⟩
  rw [hg]
  cases hf : a.fence with
  | none => rfl
  | some f =>
    simp only [fenceLt]
    rw [KT.lt_eq_ltSpec f g ((h.leaf a ha).fence f hf).1 ((h.leaf b hb).fence g hg).1]
    exact hgt f hf

/-- the per-leaf order facts `checkChain` evaluates, `hi` being the next leaf's fence -/
def leafStep (l : DLeaf) (hi : Option KT) : Prop :=
  sortedKTs (l.ents.map (·.kt)) = true ∧ (∀ e ∈ l.ents, e.kt.WF) ∧
  (∀ f, l.fence = some f → f.WF ∧ ∀ e ∈ l.ents, KT.lt e.kt f = false) ∧
  (∀ h, hi = some h → (∀ e ∈ l.ents, KT.lt e.kt h = true) ∧ ∀ f, l.fence = some f → KT.lt f h = true)

theorem checkChain_leafStep (pe : Bool) (ch : List DLeaf) (h : checkChain pe ch = true) :
    ∀ p ∈ ch.zip (ch.tail.map (·.fence) ++ [none]), leafStep p.1 p.2 := by
  cases ch with
  | nil => simp [checkChain] at h
  | cons c cs =>
    simp only [checkChain, List.all_eq_true] at h
    intro p hp
    have hp' := h p hp
    obtain ⟨l, hi⟩ := p
    simp only [Bool.and_eq_true] at hp'
    obtain ⟨⟨⟨⟨⟨⟨⟨h1, h2⟩, _⟩, h4⟩, h5⟩, _⟩, _⟩, _⟩ := hp'
    refine ⟨h1, ?_, ?_, ?_⟩
    · intro e he
      have := List.all_eq_true.mp h2 e he
      simp only [entWF, Bool.and_eq_true, decide_eq_true_eq] at this
      exact this.1
    · intro f hf
      rw [hf] at h4
      simp only [Bool.and_eq_true, List.all_eq_true, decide_eq_true_eq, ktLt,
        Bool.not_eq_eq_eq_not, Bool.not_true] at h4
      exact ⟨h4.1.2, h4.1.1⟩
    · intro hh hhi
      dsimp only at hhi
      rw [hhi] at h5
      simp only [Bool.and_eq_true, List.all_eq_true, ktLt] at h5
      refine ⟨h5.1, ?_⟩
      intro f hf
      have := h5.2
      rw [hf] at this
      exact this

theorem LeafOrd.of_step {l : DLeaf} {hi : Option KT} (h : leafStep l hi)
    (hw : ∀ g, hi = some g → g.WF) : LeafOrd l hi := by
  obtain ⟨s1, s2, s3, s4⟩ := h
  refine ⟨fun f hf => ⟨(s3 f hf).1, fun g hg => ?_⟩,
    fun e he => ⟨s2 e he, fun f hf => ?_, fun g hg => ?_⟩, ?_⟩
  · rw [← KT.lt_eq_ltSpec f g (s3 f hf).1 (hw g hg)]; exact (s4 g hg).2 f hf
  · rw [← KT.lt_eq_ltSpec e.kt f (s2 e he) (s3 f hf).1]; exact (s3 f hf).2 e he
  · rw [← KT.lt_eq_ltSpec e.kt g (s2 e he) (hw g hg)]; exact (s4 g hg).1 e he
  · have := pairwise_of_sortedKTs (l.ents.map (·.kt)) (by
      intro k hk; obtain ⟨x, hx, rfl⟩ := List.mem_map.mp hk; exact s2 x hx) s1
    rwa [List.pairwise_map] at this

/-- The induction builds the chain from the right: turning `KT.lt` against the next fence into
    `ltSpec` needs that fence well formed, which the chain already built provides. -/
theorem chainOrd_of_steps : ∀ (c : DLeaf) (cs : List DLeaf),
    (∀ p ∈ (c :: cs).zip (cs.map (·.fence) ++ [none]), leafStep p.1 p.2) →
    (∀ l ∈ cs, l.fence.isSome = true) → ChainOrd (c :: cs) none
  | c, [], h, _ =>
    .cons (.of_step (h (c, none) (by simp)) (fun g hg => by cases hg)) (by simp) ⟨by simp, .nil⟩
  | c, d :: ds, h, hsome => by
    have ih := chainOrd_of_steps d ds (fun p hp => h p (by
      simp only [List.map_cons, List.cons_append, List.zip_cons_cons, List.mem_cons]
      exact Or.inr hp)) (fun l hl => hsome l (by simp [hl]))
    obtain ⟨g, hd⟩ := Option.isSome_iff_exists.mp (hsome d (by simp))
    have hc : LeafOrd c d.fence := .of_step (h (c, d.fence) (by simp)) (fun g' hg' => by
      rw [hd] at hg'; cases hg'; exact ((ih.leaf d (by simp)).fence g hd).1)
    exact ChainOrd.append (X := [c]) (.cons hc (by simp) ⟨by simp, .nil⟩) ih (Or.inr ⟨g, hd⟩)

theorem chainOrd_of_checkLayer (pfx : List UInt8) (t : BTree) (h : checkLayer pfx t = true) :
    checkInteriors t = true ∧ ChainOrd (chainOf t none) none := by
  simp only [checkLayer, Bool.and_eq_true] at h
  refine ⟨h.1, ?_⟩
  obtain ⟨v, e, rest, hc, hr⟩ := chainOf_shape t none (routeWF_of_check t h.1)
  have hst := checkChain_leafStep _ _ h.2
  rw [hc] at hst ⊢
  exact chainOrd_of_steps _ rest hst hr

end Yak.Route
