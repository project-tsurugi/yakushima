import YakModel.Proofs.LeafInv
/-!
# `Leaf`: hindsight facts (`Inv2`)

`H q` is the abstract map after `q` steps. `Saw s H t P`: at some instant inside the running
operation of `t` the abstract map satisfied `P`. A reader's validated observations become `Saw`
facts, which justify its eventual answer (its linearization point is known only in hindsight).
-/
namespace Yak.Proto.Leaf

def Saw (s : State) (H : Nat → Spec) (t : Nat) (P : Spec → Prop) : Prop :=
  ∃ q, s.inv t < q ∧ q ≤ s.now ∧ P (H q)

/-- has a version in hand (past `ldVer` in the current attempt) -/
def Pc.fetched : Pc → Bool
  | .idle | .start _ => false
  | _ => true

/-- `m` agrees with a lookup of `k` that answered hit (`b = true`) or miss -/
def Bound (k : Key) (b : Bool) (m : Spec) : Prop := (m k).isSome = b

def Pc2 (s : State) (H : Nat → Spec) (t : Nat) : Pc → Prop
  | .haveP op v1 p => quiet s v1 → Saw s H t (Bound (opKey op) (lookupIn s.keys p (opKey op)).isSome)
  | .looked op v1 hit => quiet s v1 → Saw s H t (Bound (opKey op) hit.isSome)
  -- `ldVer2Ok` finds `quiet` true at that instant, and what was seen stays seen
  | .valid op _ hit => Saw s H t (Bound (opKey op) hit.isSome)
  | .gotVal op v1 x => quiet s v1 → x ≠ none → Saw s H t (· (opKey op) = x)
  | .relooked op hit => hit = none → Saw s H t (Bound (opKey op) false)
  -- an answer that is not a writer's was right at some instant of the call
  | .done op r => r ≠ .ok none → Saw s H t (fun m => specStep m op = (m, r))
  | _ => True

structure Inv2 (s : State) (H : Nat → Spec) : Prop where
  h_now : H s.now = abs s
  pc2 : ∀ t, Pc2 s H t (s.pc t)
  /-- whoever was already fetching when a remover cleared the cell saw the key bound -/
  rem_saw : ∀ t t' op sl, s.pc t' = .cleared op sl → (s.pc t).fetched = true →
    Saw s H t (Bound (opKey op) true)

theorem inv2_init : Inv2 init (fun _ _ => none) := by
  constructor
  · funext k; simp [abs, init, lookupIn]
  · intro t; simp [init, Pc2]
  · intro t t' op sl h; simp [init] at h

theorem Saw.mono {s s' : State} {H t P} (hs : Saw s H t P) (hinv : s'.inv t = s.inv t)
    (hnow : s'.now = s.now + 1) (m : Spec) : Saw s' (upd H s'.now m) t P := by
  obtain ⟨q, h1, h2, h3⟩ := hs
  refine ⟨q, by rw [hinv]; exact h1, by omega, ?_⟩
  rw [upd_other _ _ _ _ (by omega)]; exact h3

theorem Saw.of_now {s : State} {H t} {P : Spec → Prop} (hH : H s.now = abs s)
    (hlt : s.inv t < s.now) (hp : P (abs s)) : Saw s H t P :=
  ⟨s.now, hlt, Nat.le_refl _, by rw [hH]; exact hp⟩

theorem Saw.imp {s : State} {H t} {P Q : Spec → Prop} (hs : Saw s H t P) (h : ∀ m, P m → Q m) :
    Saw s H t Q := by
  obtain ⟨q, h1, h2, h3⟩ := hs
  exact ⟨q, h1, h2, h _ h3⟩

theorem Pc2_mono {c : Cfg} {s s' : State} {H H' t}
    (hsaw : ∀ P, Saw s H t P → Saw s' H' t P)
    (hq : ∀ v1, v1 ≤ s.ver.vins → quiet s' v1 →
      quiet s v1 ∧ s'.keys = s.keys ∧ ∀ a ∈ s'.perm, a ∈ s.perm)
    (p : Pc) (hok : PcOk c s p) : Pc2 s H t p → Pc2 s' H' t p := by
  cases p <;> simp only [Pc2, PcOk] at hok ⊢
  case haveP op v1 p =>
    intro h q'
    obtain ⟨q, hk, _⟩ := hq v1 hok.1 q'
    rw [hk]
    exact hsaw _ (h q)
  case looked => exact fun h q' => hsaw _ (h (hq _ hok.1 q').1)
  case valid => exact hsaw _
  case gotVal => exact fun h q' hx => hsaw _ (h (hq _ hok.1 q').1 hx)
  case relooked | done => exact fun h e => hsaw _ (h e)
  all_goals exact id

theorem pc2_other {c s t s' H} (I : Inv1 c s) (J : Inv2 s H) (h : Step c s t s') (t' : Nat)
    (ht : t' ≠ t) : Pc2 s' (upd H s'.now (abs s')) t' (s'.pc t') := by
  rw [h.pc_other t' ht]
  exact Pc2_mono (fun P hs => hs.mono (h.invoked_other t' ht) h.now_eq _)
    (fun _ => quiet_step I h) _ (I.pc_ok t') (J.pc2 t')

theorem Bound.eq_none {m : Spec} {k : Key} (h : Bound k false m) : m k = none := by
  simpa [Bound] using h

theorem spec_get_miss {m : Spec} {k : Key} (h : Bound k false m) : specStep m (.get k) = (m, .notExist) := by
  simp [specStep, h.eq_none]

theorem spec_remove_miss {m : Spec} {k : Key} (h : Bound k false m) :
    specStep m (.remove k) = (m, .notFound) := by
  simp [specStep, h.eq_none]

theorem spec_unique_hit {m : Spec} {k : Key} {v : Val} (h : Bound k true m) :
    specStep m (.put k v true) = (m, .uniqueRestriction) := by
  simp [specStep, show (m k).isSome = true from h]

theorem pc2_self {c s t s' H} (I : Inv1 c s) (J : Inv2 s H) (h : Step c s t s') :
    Pc2 s' (upd H s'.now (abs s')) t (s'.pc t) := by
  have hok := I.pc_ok t
  have h2 := J.pc2 t
  have hnow := h.now_eq
  have now_saw : ∀ P : Spec → Prop, s.pc t ≠ .idle → P (abs s) → Saw s' (upd H s'.now (abs s')) t P :=
    fun P hne hp => (Saw.of_now J.h_now (I.live t hne).2 hp).mono (h.invoked_eq t hne) hnow _
  have mono : ∀ P, s.pc t ≠ .idle → Saw s H t P → Saw s' (upd H s'.now (abs s')) t P :=
    fun P hne hs => hs.mono (h.invoked_eq t hne) hnow _
  cases h
  case invoke | ret | lock => dsimp only; rw [upd_same]; trivial
  case loc hpc h =>
    have hne : s.pc t ≠ .idle := hpc ▸ h.ne_idle.1
    rw [hpc] at hok h2
    dsimp only; rw [upd_same]
    -- the outcomes not named end at a pc of which `Pc2` asks nothing
    cases h <;> simp only [Pc2, PcOk] at hok h2 ⊢
    case ldPerm op v1 =>
      intro _
      cases hl : lookupIn s.keys s.perm (opKey op) with
      | none => exact now_saw _ hne (by simp only [Bound, abs, hl])
      | some sl =>
        cases hv : s.vals sl with
        | some v => exact now_saw _ hne (by simp only [Bound, abs, hl, hv]; rfl)
        | none =>
          -- a null value in a listed slot: a remover is at work, and `t` fetched before
          obtain ⟨hm, hk⟩ := lookupIn_some hl
          obtain ⟨t', op', hc⟩ := I.remover_at hm hv
          have hok' := I.pc_ok t'
          rw [hc] at hok'
          have hk' : opKey op' = opKey op := by
            have := hok'.2.2.1; rw [hk] at this; exact (Option.some.inj this).symm
          exact mono _ hne (hk' ▸ J.rem_saw t t' op' sl hc (by rw [hpc]; rfl))
    case ldKeys => exact fun q => mono _ hne (h2 q)
    case ldVer2Ok op v1 hit hst hv =>
      exact mono _ hne (h2 (quiet_of_stable hst hv))
    case ldValOk k v1 sl hfix =>
      intro hq hx
      have hk : s.keys sl = some k := hok.2 hq
      by_cases hm : sl ∈ s.perm
      · have hl := lookupIn_of_mem I.keys_inj hm hk
        exact now_saw _ hne (by simp only [abs, opKey, hl])
      · -- a value in an unlisted slot belongs to an insert in flight, which `quiet` excludes
        obtain ⟨t', op', hc⟩ := I.inserter_at hm hx
        have hok' := I.pc_ok t'
        rw [hc] at hok'
        have := hok'.1
        rw [hq.2] at this; cases this
    case getMiss => exact fun _ => mono _ hne (h2.imp fun _ => spec_get_miss)
    case getOk k v1 x hst hv =>
      intro hx
      have hx' : x ≠ none := fun e => hx (e ▸ rfl)
      refine mono _ hne ((h2 (quiet_of_stable hst hv) hx').imp fun m hm => ?_)
      cases x with
      | none => exact absurd rfl hx'
      | some v => simp only [opKey] at hm; simp [specStep, hm]
    case remMiss => exact fun _ => mono _ hne (h2.imp fun _ => spec_remove_miss)
    case uniqueHit => exact fun _ => mono _ hne (h2.imp fun _ => spec_unique_hit)
  case crit hpc h =>
    have hne : s.pc t ≠ .idle := hpc ▸ h.ne_idle.1
    rw [hpc] at hok h2
    dsimp only; rw [upd_same]
    cases h <;> simp only [Pc2, PcOk] at hok h2 ⊢
    case relook op sl =>
      intro hl
      exact now_saw _ hne (by simp only [Bound, abs, hl]; rfl)
    case unlockPub op r => exact fun hr => absurd hok.1 hr
    case unlockRemMiss => exact fun _ => mono _ hne ((h2 trivial).imp fun _ => spec_remove_miss)

theorem rem_saw_step {c s t s' H} (I : Inv1 c s) (J : Inv2 s H) (h : Step c s t s') :
    ∀ t1 t2 op sl, s'.pc t2 = .cleared op sl → (s'.pc t1).fetched = true →
      Saw s' (upd H s'.now (abs s')) t1 (Bound (opKey op) true) := by
  intro t1 t2 op sl hc hf
  have hnow := h.now_eq
  by_cases e2 : t2 = t
  · subst e2
    have hok := I.pc_ok t2
    -- the step is the clear itself
    have key : s.pc t1 ≠ .idle ∧ Saw s H t1 (Bound (opKey op) true) := by
      cases h
      case crit hpc h =>
        dsimp only at hc hf; rw [upd_same] at hc
        cases h <;> cases hc
        rename_i k
        have hne1 : s.pc t1 ≠ .idle := by
          by_cases e1 : t1 = t2
          · rw [e1, hpc]; nofun
          · rw [upd_other _ _ _ _ e1] at hf; intro e; rw [e] at hf; cases hf
        exact ⟨hne1, Saw.of_now J.h_now (I.live t1 hne1).2 (I.relooked_bound hpc)⟩
      case loc h => dsimp only at hc; rw [upd_same] at hc; rw [hc] at h; cases h.not_holds.2
      all_goals (dsimp only at hc; rw [upd_same] at hc; cases hc)
    exact key.2.mono (h.invoked_eq t1 key.1) hnow _
  · rw [h.pc_other t2 e2] at hc
    have hl := I.lk_holds t2 (by rw [hc]; rfl)
    by_cases e1 : t1 = t
    · subst e1
      -- the lock is taken, so `t1` does not fetch a version in this step
      have hold : (s.pc t1).fetched = true := by
        cases h
        case invoke => dsimp only at hf; rw [upd_same] at hf; cases hf
        case loc hpc h =>
          rw [hpc]
          cases h <;> try rfl
          case ldVer hst => simp [Ver.stable, hl] at hst
        case crit hpc h => rw [hpc]; cases h <;> rfl
        all_goals (rw [‹s.pc t1 = _›]; rfl)
      have hne1 : s.pc t1 ≠ .idle := by intro e; rw [e] at hold; cases hold
      exact (J.rem_saw t1 t2 op sl hc hold).mono (h.invoked_eq t1 hne1) hnow _
    · rw [h.pc_other t1 e1] at hf
      exact (J.rem_saw t1 t2 op sl hc hf).mono (h.invoked_other t1 e1) hnow _

theorem inv2_step {c s t s' H} (I : Inv1 c s) (J : Inv2 s H) (h : Step c s t s') :
    Inv2 s' (upd H s'.now (abs s')) where
  h_now := upd_same _ _ _
  pc2 := fun t' => by
    by_cases ht : t' = t
    · subst ht; exact pc2_self I J h
    · exact pc2_other I J h t' ht
  rem_saw := rem_saw_step I J h
end Yak.Proto.Leaf
