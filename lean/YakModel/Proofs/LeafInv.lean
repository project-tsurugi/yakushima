import YakModel.Proofs.LeafLookup
/-!
# `Leaf`: the history-free invariants of reachable states (`Inv1`)

What a reader knows is conditional on `quiet s v1`: no insert has started since it fetched version
`v1` (an insert in flight sets `ins`, a finished one bumped `vins`, and `vins` never decreases).
Removes are not tracked by the version; what protects a reader from them is the `cells` clause: a
listed slot with a cleared value has its remover still at work.
-/
namespace Yak.Proto.Leaf

/-- between `lock` and `unlock` -/
def Pc.holds : Pc → Bool
  | .locked _ _ | .relooked _ _ | .insFlag _ | .keyed _ _ | .valued _ _ | .published _ _
  | .cleared _ _ => true
  | _ => false

def holdsLock (s : State) (t : Nat) : Prop := (s.pc t).holds = true

def OpKind.isGet : OpKind → Bool
  | .get _ => true
  | _ => false

def quiet (s : State) (v1 : Nat) : Prop := s.ver.vins = v1 ∧ s.ver.ins = false

theorem quiet_of_stable {s : State} {v1 : Nat} (hst : s.ver.stable = true) (hv : s.ver.vins = v1) :
    quiet s v1 := by
  simp [Ver.stable] at hst
  exact ⟨hv, hst.2⟩

def HitOk (s : State) (op : OpKind) : Option Slot → Prop
  | none => lookupIn s.keys s.perm (opKey op) = none
  | some sl => s.keys sl = some (opKey op)

def PcOk (c : Cfg) (s : State) : Pc → Prop
  | .idle => True
  | .start _ => True
  | .haveV _ v1 => v1 ≤ s.ver.vins
  | .haveP _ v1 p => v1 ≤ s.ver.vins ∧ (quiet s v1 → ∀ a ∈ s.perm, a ∈ p)
  | .looked op v1 hit => v1 ≤ s.ver.vins ∧ (quiet s v1 → HitOk s op hit)
  | .valid op v1 hit => v1 ≤ s.ver.vins ∧ (quiet s v1 → HitOk s op hit)
  | .gotVal _ v1 x => v1 ≤ s.ver.vins ∧ (c.fixD1 = true → x ≠ none)
  | .locked op hit => s.ver.ins = false ∧ (hit = none → lookupIn s.keys s.perm (opKey op) = none)
  | .relooked op hit => s.ver.ins = false ∧ hit = lookupIn s.keys s.perm (opKey op)
  | .insFlag op => s.ver.ins = true ∧ lookupIn s.keys s.perm (opKey op) = none
  | .keyed op sl => s.ver.ins = true ∧ lookupIn s.keys s.perm (opKey op) = none ∧ sl ∉ s.perm ∧
      s.keys sl = some (opKey op)
  | .valued op sl => s.ver.ins = true ∧ lookupIn s.keys s.perm (opKey op) = none ∧ sl ∉ s.perm ∧
      s.keys sl = some (opKey op) ∧ ∀ k v u, op = .put k v u → s.vals sl = some v
  | .published op r => r = .ok none ∧ op.isGet = false
  | .cleared op sl => s.ver.ins = false ∧ sl ∈ s.perm ∧ s.keys sl = some (opKey op) ∧ s.vals sl = none
  | .done op r => ∀ x, r = .ok x → if op.isGet = true then (c.fixD1 = true → x ≠ none) else x = none

/-- the slot whose value cell is written ahead of the permutation (insert) or cleared behind it -/
def Pc.dirty : Pc → Option Slot
  | .valued _ sl | .cleared _ sl => some sl
  | _ => none

theorem Pc.dirty_cases {p : Pc} {a : Slot} (h : p.dirty = some a) :
    (∃ op, p = .valued op a) ∨ ∃ op, p = .cleared op a := by
  cases p <;> cases h
  · exact .inl ⟨_, rfl⟩
  · exact .inr ⟨_, rfl⟩

structure Inv1 (c : Cfg) (s : State) : Prop where
  lk_holds : ∀ t, (s.pc t).holds = true → s.ver.locked = true
  lk_uniq : ∀ t1 t2, (s.pc t1).holds = true → (s.pc t2).holds = true → t1 = t2
  ins_locked : s.ver.ins = true → s.ver.locked = true
  keys_inj : ∀ a ∈ s.perm, ∀ b ∈ s.perm, s.keys a = s.keys b → a = b
  /-- listed iff filled, except the one slot the lock holder is at work on -/
  cells : ∀ a, (a ∈ s.perm ↔ s.vals a ≠ none) ∨ ∃ t, (s.pc t).dirty = some a
  live : ∀ t, s.pc t ≠ .idle → t ∈ s.running ∧ s.inv t < s.now
  pc_ok : ∀ t, PcOk c s (s.pc t)
  hist_get : c.fixD1 = true → ∀ t k i j, (t, OpKind.get k, Res.ok none, i, j) ∉ s.hist

theorem inv1_init (c : Cfg) : Inv1 c init := by
  constructor <;> simp [init, Pc.holds, PcOk]

theorem Local.not_holds {c s p p'} (h : Local c s p p') : p.holds = false ∧ p'.holds = false := by
  cases h <;> exact ⟨rfl, rfl⟩

theorem Crit.src_holds {c s p p' m} (h : Crit c s p p' m) : p.holds = true := by
  cases h <;> rfl

theorem Step.lock_cases {c s t s'} (h : Step c s t s') :
    ((s'.pc t).holds = (s.pc t).holds ∧ s'.ver.locked = s.ver.locked) ∨
    (s.ver.locked = false ∧ s'.ver.locked = true) ∨
    ((s.pc t).holds = true ∧ (s'.pc t).holds = false) := by
  cases h
  case lock hl _ _ => exact .inr (.inl ⟨hl, rfl⟩)
  case loc hpc h => exact .inl ⟨by dsimp only; rw [upd_same, hpc, h.not_holds.1, h.not_holds.2], rfl⟩
  case crit hpc h =>
    dsimp only; rw [upd_same, hpc]
    cases h
    case unlockPub | unlockRemMiss | unlockRetry => exact .inr (.inr ⟨rfl, rfl⟩)
    all_goals exact .inl ⟨rfl, rfl⟩
  all_goals exact .inl ⟨by dsimp only; rw [upd_same, ‹s.pc t = _›]; rfl, rfl⟩

theorem lock_step {c s t s'} (I : Inv1 c s) (h : Step c s t s') :
    (∀ t', (s'.pc t').holds = true → s'.ver.locked = true) ∧
    ∀ t1 t2, (s'.pc t1).holds = true → (s'.pc t2).holds = true → t1 = t2 := by
  have old : ∀ t', t' ≠ t → (s'.pc t').holds = true → (s.pc t').holds = true :=
    fun t' ht hh => by rwa [h.pc_other t' ht] at hh
  rcases h.lock_cases with ⟨e1, e2⟩ | ⟨e1, e2⟩ | ⟨e1, e2⟩
  · have : ∀ t', (s'.pc t').holds = (s.pc t').holds := fun t' => by
      by_cases ht : t' = t
      · rw [ht, e1]
      · rw [h.pc_other t' ht]
    simp only [this, e2]
    exact ⟨I.lk_holds, I.lk_uniq⟩
  · -- the lock was free, so nobody but `t` holds it now
    have only : ∀ t', (s'.pc t').holds = true → t' = t := fun t' hh =>
      Decidable.byContradiction fun ht => by
        have := I.lk_holds t' (old t' ht hh); rw [e1] at this; cases this
    exact ⟨fun _ _ => e2, fun t1 t2 h1 h2 => (only t1 h1).trans (only t2 h2).symm⟩
  · -- `t` held it, so nobody holds it now
    have nobody : ∀ t', (s'.pc t').holds = true → False := fun t' hh => by
      by_cases ht : t' = t
      · rw [ht, e2] at hh; cases hh
      · exact ht (I.lk_uniq t' t (old t' ht hh) e1)
    exact ⟨fun t' hh => (nobody t' hh).elim, fun t1 _ h1 _ => (nobody t1 h1).elim⟩

theorem ins_locked_step {c s t s'} (I : Inv1 c s) (h : Step c s t s') :
    s'.ver.ins = true → s'.ver.locked = true := by
  have hok := I.pc_ok t
  cases h <;> try exact I.ins_locked
  case lock => intro _; rfl
  case crit hpc h =>
    rw [hpc] at hok
    have hl := I.lk_holds t (by rw [hpc]; exact h.src_holds)
    cases h <;> try exact I.ins_locked
    case setIns => exact fun _ => hl
    case unlockPub => intro h; cases h
    case unlockRemMiss | unlockRetry => intro h; exact absurd h (by simp [hok.1])

theorem keys_inj_step {c s t s'} (I : Inv1 c s) (h : Step c s t s') :
    ∀ a ∈ s'.perm, ∀ b ∈ s'.perm, s'.keys a = s'.keys b → a = b := by
  have hok := I.pc_ok t
  cases h <;> try exact I.keys_inj
  case crit hpc h =>
    rw [hpc] at hok
    cases h <;> try exact I.keys_inj
    case stKey k v u sl hfree =>
      intro a ha b hb
      have hsl := freeSlot_not_mem hfree
      dsimp only at ha hb ⊢
      rw [upd_of_not_mem hsl a ha, upd_of_not_mem hsl b hb]
      exact I.keys_inj a ha b hb
    case stPermIns k v u sl =>
      obtain ⟨_, hn, _, hk, _⟩ := hok
      have hn' := lookupIn_none.mp hn
      intro a ha b hb hab
      rcases (mem_insertSorted a).mp ha with ea | ha' <;> rcases (mem_insertSorted b).mp hb with eb | hb'
      · rw [ea, eb]
      · subst ea; exact absurd (hab.symm.trans hk) (hn' b hb')
      · subst eb; exact absurd (hab.trans hk) (hn' a ha')
      · exact I.keys_inj a ha' b hb' hab
    case stPermRem =>
      intro a ha b hb
      exact I.keys_inj a (List.mem_filter.mp ha).1 b (List.mem_filter.mp hb).1

theorem cells_step {c s t s'} (I : Inv1 c s) (h : Step c s t s') :
    ∀ a, (a ∈ s'.perm ↔ s'.vals a ≠ none) ∨ ∃ t', (s'.pc t').dirty = some a := by
  intro a
  have hok := I.pc_ok t
  have tr : s'.vals a = s.vals a → (a ∈ s'.perm ↔ a ∈ s.perm) → (s.pc t).dirty ≠ some a →
      (a ∈ s'.perm ↔ s'.vals a ≠ none) ∨ ∃ t', (s'.pc t').dirty = some a := by
    intro e1 e2 e3
    rw [e1, e2]
    exact (I.cells a).imp_right fun ⟨t', ht'⟩ =>
      ⟨t', by rw [h.pc_other t' (by rintro rfl; exact e3 ht')]; exact ht'⟩
  cases h
  case loc hpc h =>
    refine tr rfl Iff.rfl fun e => ?_
    have := h.not_holds.1
    rcases Pc.dirty_cases e with ⟨_, e⟩ | ⟨_, e⟩ <;> rw [← hpc, e] at this <;> cases this
  case crit hpc h =>
    rw [hpc] at hok
    cases h
    -- the store makes `sl` the slot `t` is at work on
    case stValIns | clearVal =>
      rename_i sl
      by_cases e : a = sl
      · subst e; exact .inr ⟨t, by dsimp only; rw [upd_same]; rfl⟩
      · exact tr (upd_other _ _ _ _ e) Iff.rfl (by rw [hpc]; nofun)
    case stValUpd k v sl =>
      by_cases e : a = sl
      · subst e
        exact .inl ⟨fun _ => by dsimp only; rw [upd_same]; nofun, fun _ => (lookupIn_some hok.2.symm).1⟩
      · exact tr (upd_other _ _ _ _ e) Iff.rfl (by rw [hpc]; nofun)
    case stPermIns k v u sl =>
      by_cases e : a = sl
      · subst e
        exact .inl ⟨fun _ => by dsimp only; rw [hok.2.2.2.2 k v u rfl]; nofun,
          fun _ => (mem_insertSorted a).mpr (.inl rfl)⟩
      · exact tr rfl ((mem_insertSorted a).trans (or_iff_right e)) (by rw [hpc]; exact fun h => e (Option.some.inj h).symm)
    case stPermRem k sl =>
      by_cases e : a = sl
      · subst e
        exact .inl ⟨fun h => absurd (List.mem_filter.mp h).2 (by simp), fun h => absurd hok.2.2.2 h⟩
      · exact tr rfl (List.mem_filter.trans (and_iff_left (by simpa using e)))
          (by rw [hpc]; exact fun h => e (Option.some.inj h).symm)
    all_goals exact tr rfl Iff.rfl (by rw [hpc]; nofun)
  all_goals exact tr rfl Iff.rfl (by rw [‹s.pc t = _›]; nofun)

theorem live_step {c s t s'} (I : Inv1 c s) (h : Step c s t s') :
    ∀ t', s'.pc t' ≠ .idle → t' ∈ s'.running ∧ s'.inv t' < s'.now := by
  intro t' hne
  rw [h.now_eq]
  have old : s.pc t' ≠ .idle → t' ∈ s.running ∧ s.inv t' < s.now + 1 := fun hn =>
    ⟨(I.live t' hn).1, Nat.lt_succ_of_lt (I.live t' hn).2⟩
  by_cases ht : t' = t
  · subst ht
    cases h
    case invoke => exact ⟨List.mem_cons_self .., by dsimp only; rw [upd_same]; exact Nat.lt_succ_self _⟩
    case ret => exact absurd (upd_same _ _ _) hne
    case loc hpc h => exact old (hpc ▸ h.ne_idle.1)
    case lock hpc => exact old (by rw [hpc]; nofun)
    case crit hpc h => exact old (hpc ▸ h.ne_idle.1)
  · rw [h.pc_other t' ht] at hne
    cases h
    case invoke =>
      exact ⟨List.mem_cons_of_mem _ (old hne).1, by dsimp only; rw [upd_other _ _ _ _ ht]; exact (old hne).2⟩
    case ret => exact ⟨List.mem_filter.mpr ⟨(old hne).1, by simpa using ht⟩, (old hne).2⟩
    all_goals exact old hne

theorem hist_get_step {c s t s'} (I : Inv1 c s) (h : Step c s t s') :
    c.fixD1 = true → ∀ t' k i j, (t', OpKind.get k, Res.ok none, i, j) ∉ s'.hist := by
  intro hf
  have hok := I.pc_ok t
  cases h <;> try exact I.hist_get hf
  case ret op r hpc =>
    intro t' k i j hm
    rcases List.mem_append.mp hm with hm | hm
    · exact I.hist_get hf _ _ _ _ hm
    · simp only [List.mem_singleton, Prod.mk.injEq] at hm
      obtain ⟨_, e1, e2, _⟩ := hm
      rw [hpc, ← e1, ← e2] at hok
      have := hok none rfl
      simp [OpKind.isGet, hf] at this

theorem Step.vins_mono {c s t s'} (h : Step c s t s') : s.ver.vins ≤ s'.ver.vins := by
  cases h <;> try exact Nat.le_refl _
  case crit h =>
    cases h <;> try exact Nat.le_refl _
    case unlockPub => show _ ≤ (if _ then _ else _); split <;> simp

/-- the seqlock step: a word that looks quiet afterwards was quiet before, and the step was no part
    of an insert -/
theorem quiet_step {c s t s'} (I : Inv1 c s) (h : Step c s t s') {v1 : Nat} (hv : v1 ≤ s.ver.vins)
    (hq : quiet s' v1) : quiet s v1 ∧ s'.keys = s.keys ∧ ∀ a ∈ s'.perm, a ∈ s.perm := by
  have hok := I.pc_ok t
  cases h
  case crit hpc h =>
    rw [hpc] at hok
    cases h
    case setIns => exact absurd hq.2 (by simp)
    case stKey => exact absurd hq.2 (by simp [hok.1])
    case stPermIns => exact absurd hq.2 (by simp [hok.1])
    case stPermRem => exact ⟨hq, rfl, fun a ha => (List.mem_filter.mp ha).1⟩
    case unlockPub =>
      obtain ⟨h1, _⟩ := hq
      simp only at h1
      split at h1
      · omega
      · rename_i hi
        exact ⟨⟨h1, by simpa using hi⟩, rfl, fun a ha => ha⟩
    all_goals exact ⟨hq, rfl, fun a ha => ha⟩
  all_goals exact ⟨hq, rfl, fun a ha => ha⟩

theorem PcOk_congr {c : Cfg} {s s' : State} (h1 : s'.ver = s.ver) (h2 : s'.perm = s.perm)
    (h3 : s'.keys = s.keys) (h4 : s'.vals = s.vals) (p : Pc) : PcOk c s p → PcOk c s' p := by
  cases s; cases s'; cases h1; cases h2; cases h3; cases h4; exact id

theorem PcOk_reader {c : Cfg} {s s' : State} (hm : s.ver.vins ≤ s'.ver.vins)
    (hq : ∀ v1, v1 ≤ s.ver.vins → quiet s' v1 →
      quiet s v1 ∧ s'.keys = s.keys ∧ ∀ a ∈ s'.perm, a ∈ s.perm)
    (p : Pc) (hp : p.holds = false) : PcOk c s p → PcOk c s' p := by
  have hit : ∀ op v1 hit, v1 ≤ s.ver.vins → (quiet s v1 → HitOk s op hit) → quiet s' v1 → HitOk s' op hit := by
    intro op v1 hit hv h q'
    obtain ⟨q, hk, hsub⟩ := hq v1 hv q'
    have := h q
    cases hit with
    | none => simp only [HitOk, hk] at this ⊢; exact lookupIn_none_subset this hsub
    | some sl => simp only [HitOk, hk] at this ⊢; exact this
  -- `hp` rules out the program counters of the critical section
  cases p <;> try (cases hp; done)
  all_goals simp only [PcOk]
  case idle | start => exact id
  case haveV => exact fun h => Nat.le_trans h hm
  case haveP =>
    rintro ⟨h1, h2⟩
    refine ⟨Nat.le_trans h1 hm, fun q' a ha => ?_⟩
    obtain ⟨q, _, hsub⟩ := hq _ h1 q'
    exact h2 q a (hsub a ha)
  case looked | valid => exact fun ⟨h1, h2⟩ => ⟨Nat.le_trans h1 hm, hit _ _ _ h1 h2⟩
  case gotVal => exact fun ⟨h1, h2⟩ => ⟨Nat.le_trans h1 hm, h2⟩
  case done => exact id

theorem pc_ok_other {c s t s'} (I : Inv1 c s) (h : Step c s t s') (t' : Nat) (ht : t' ≠ t) :
    PcOk c s' (s'.pc t') := by
  rw [h.pc_other t' ht]
  have hok := I.pc_ok t'
  by_cases hh : (s.pc t').holds = true
  · -- `t'` holds the lock, so `t` neither holds nor takes it
    cases h
    case lock hl _ _ => rw [I.lk_holds t' hh] at hl; cases hl
    case crit hpc h => exact absurd (I.lk_uniq t' t hh (by rw [hpc]; exact h.src_holds)) ht
    all_goals exact PcOk_congr rfl rfl rfl rfl _ hok
  · exact PcOk_reader h.vins_mono (fun _ => quiet_step I h) _ (by simpa using hh) hok

theorem Local.pcOk {c s p p'} (h : Local c s p p') (hok : PcOk c s p) : PcOk c s p' := by
  cases h <;> simp only [PcOk] at hok ⊢
  case ldVer => exact Nat.le_refl _
  case ldPerm => exact ⟨hok, fun _ a ha => ha⟩
  case ldKeys op v1 p =>
    refine ⟨hok.1, fun q => ?_⟩
    cases hl : lookupIn s.keys p (opKey op) with
    | none => exact lookupIn_none_subset hl (hok.2 q)
    | some sl => exact (lookupIn_some hl).2
  case ldVer2Ok => exact hok
  case ldVer2Fail => exact Nat.le_refl _
  case ldValOk hfix => exact ⟨hok.1, hfix⟩
  case getOk => intro x' e; cases e; simpa [OpKind.isGet] using hok.2
  all_goals nofun

theorem pc_ok_self {c s t s'} (I : Inv1 c s) (h : Step c s t s') : PcOk c s' (s'.pc t) := by
  have hok := I.pc_ok t
  cases h
  case invoke | ret => dsimp only; rw [upd_same]; trivial
  case loc hpc h =>
    dsimp only; rw [upd_same]
    exact PcOk_congr rfl rfl rfl rfl _ (h.pcOk (hpc ▸ hok))
  case lock op v1 hit hl hv hpc =>
    rw [hpc] at hok
    dsimp only; rw [upd_same]
    have hi : s.ver.ins = false := by
      cases hi : s.ver.ins with
      | false => rfl
      | true => have := I.ins_locked hi; rw [hl] at this; cases this
    exact ⟨hi, fun e => by subst e; exact hok.2 ⟨hv, hi⟩⟩
  case crit hpc h =>
    rw [hpc] at hok
    dsimp only; rw [upd_same]
    cases h <;> simp only [PcOk] at hok ⊢
    case relook => exact ⟨hok.1, trivial⟩
    case setIns => simpa using hok.2
    case stKey k v u sl hfree =>
      have hsl := freeSlot_not_mem hfree
      refine ⟨hok.1, ?_, hsl, upd_same _ _ _⟩
      rw [lookupIn_congr (upd_of_not_mem hsl)]
      exact hok.2
    case stValIns k v u sl =>
      refine ⟨hok.1, hok.2.1, hok.2.2.1, hok.2.2.2, ?_⟩
      intro k' v' u' e; cases e; exact upd_same _ _ _
    case clearVal k sl =>
      have := lookupIn_some hok.2.symm
      exact ⟨hok.1, this.1, this.2, upd_same _ _ _⟩
    case unlockPub op r =>
      intro x e; rw [hok.1] at e; cases e; simp [hok.2]
    case unlockRemMiss => nofun
    -- `.published` asks only for `.ok none` and no `get`
    case stValUpd | stPermIns | stPermRem => simp [OpKind.isGet]

theorem inv1_step {c s t s'} (I : Inv1 c s) (h : Step c s t s') : Inv1 c s' where
  lk_holds := (lock_step I h).1
  lk_uniq := (lock_step I h).2
  ins_locked := ins_locked_step I h
  keys_inj := keys_inj_step I h
  cells := cells_step I h
  live := live_step I h
  pc_ok := fun t' => by
    by_cases ht : t' = t
    · subst ht; exact pc_ok_self I h
    · exact pc_ok_other I h t' ht
  hist_get := hist_get_step I h

theorem Inv1.remover_at {c s} (I : Inv1 c s) {a : Slot} (ha : a ∈ s.perm) (hv : s.vals a = none) :
    ∃ t op, s.pc t = .cleared op a := by
  rcases I.cells a with hc | ⟨t, ht⟩
  · exact absurd hv (hc.mp ha)
  · have hok := I.pc_ok t
    rcases Pc.dirty_cases ht with ⟨op, e⟩ | ⟨op, e⟩
    · rw [e] at hok; exact absurd ha hok.2.2.1
    · exact ⟨t, op, e⟩

theorem Inv1.inserter_at {c s} (I : Inv1 c s) {a : Slot} (ha : a ∉ s.perm) (hv : s.vals a ≠ none) :
    ∃ t op, s.pc t = .valued op a := by
  rcases I.cells a with hc | ⟨t, ht⟩
  · exact absurd (hc.mpr hv) ha
  · have hok := I.pc_ok t
    rcases Pc.dirty_cases ht with ⟨op, e⟩ | ⟨op, e⟩
    · exact ⟨t, op, e⟩
    · rw [e] at hok; exact absurd hok.2.1 ha

/-- nobody else can have cleared its value -/
theorem Inv1.relooked_bound {c s t op sl} (I : Inv1 c s) (hpc : s.pc t = .relooked op (some sl)) :
    (abs s (opKey op)).isSome = true := by
  have hok := I.pc_ok t
  rw [hpc] at hok
  have hl : lookupIn s.keys s.perm (opKey op) = some sl := hok.2.symm
  simp only [abs, hl]
  cases hv : s.vals sl with
  | some v => rfl
  | none =>
    obtain ⟨t', op', hc'⟩ := I.remover_at (lookupIn_some hl).1 hv
    have := I.lk_uniq t' t (by rw [hc']; rfl) (by rw [hpc]; rfl)
    subst this; rw [hpc] at hc'; cases hc'

theorem inv1_reach {c s} (h : Reach c s) : Inv1 c s :=
  reach_induction (inv1_init c) (fun _ _ _ _ I hs => inv1_step I hs) s h

theorem writers_serialized (s : State) (h : Reach cfgFixed s) :
    ∀ t1 t2, holdsLock s t1 → holdsLock s t2 → t1 = t2 :=
  (inv1_reach h).lk_uniq

theorem leaf_get_nonnull (s : State) (h : Reach cfgFixed s) :
    ∀ t k i j, (t, OpKind.get k, Res.ok none, i, j) ∉ s.hist :=
  (inv1_reach h).hist_get rfl
end Yak.Proto.Leaf
