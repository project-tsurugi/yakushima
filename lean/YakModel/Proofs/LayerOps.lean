import YakModel.Proofs.LayerLemmas
/-!
# Single-layer modifications preserve `LayerCore`

Two primitives: `LayerCore.replace` (one leaf for another with the same fence) and `LayerCore.mid`
(what a leaf that is not the first adds to the chain around it); a split is a replacement and an
insertion, an unlink to the right a removal and a replacement.
-/
namespace Yak.Tree
open Yak

theorem FencesOK.replace {pre post : List Leaf} {leaf leaf' : Leaf}
    (h : FencesOK (pre ++ leaf :: post)) (hf : leaf'.fence = leaf.fence) :
    FencesOK (pre ++ leaf' :: post) := by
  cases pre with
  | nil => exact ⟨hf.trans h.1, h.2⟩
  | cons p ps =>
    refine ⟨h.1, forall_mem_mid.mpr ?_⟩
    rw [hf]
    exact forall_mem_mid.mp h.2

theorem FencesOK.mid {pre post : List Leaf} {x : Leaf} (hp : pre ≠ []) :
    FencesOK (pre ++ x :: post) ↔ FencesOK (pre ++ post) ∧ ∃ f ∈ x.fence, f.WF ∧ f.len ≠ 0 := by
  cases pre with
  | nil => exact absurd rfl hp
  | cons p ps =>
    simp only [List.cons_append, FencesOK, forall_mem_mid]
    exact ⟨fun ⟨a, b, c⟩ => ⟨⟨a, c⟩, b⟩, fun ⟨⟨a, c⟩, b⟩ => ⟨a, b, c⟩⟩

theorem LayerCore.mid {pre post : List Leaf} {x : Leaf} (hp : pre ≠ []) :
    LayerCore (pre ++ x :: post) ↔ LayerCore (pre ++ post) ∧ (∃ f ∈ x.fence, f.WF ∧ f.len ≠ 0) ∧
      LeafOK x ∧ (∀ a ∈ pre, Before a x) ∧ ∀ b ∈ post, Before x b := by
  simp only [LayerCore, FencesOK.mid hp, pairwise_mid, forall_mem_mid]
  exact ⟨fun ⟨⟨a, b⟩, ⟨c, d, e⟩, f, g⟩ => ⟨⟨a, c, g⟩, b, f, d, e⟩,
    fun ⟨⟨a, c, g⟩, b, f, d, e⟩ => ⟨⟨a, b⟩, ⟨c, d, e⟩, f, g⟩⟩

theorem Before.of_fence_lt {a l r : Leaf} {g : KT} (h : Before a l) (hg : l.fence = some g)
    (hlt : ∀ f ∈ r.fence, KT.ltSpec g f = true) : Before a r := fun f hf =>
  ⟨fun g' hg' => KT.ltSpec_trans _ _ _ ((h g hg).1 g' hg') (hlt f hf),
    fun e he => KT.ltSpec_trans _ _ _ ((h g hg).2 e he) (hlt f hf)⟩

theorem LayerCore.replace {pre post : List Leaf} {leaf leaf' : Leaf}
    (h : LayerCore (pre ++ leaf :: post)) (hf : leaf'.fence = leaf.fence) (hok : LeafOK leaf')
    (hhi : ∀ b ∈ post, ∀ f ∈ b.fence, ∀ e ∈ leaf'.ents, KT.ltSpec e.kt f = true) :
    LayerCore (pre ++ leaf' :: post) := by
  obtain ⟨hF, hP, hL⟩ := h
  rw [pairwise_mid] at hP
  refine ⟨hF.replace hf, pairwise_mid.mpr ⟨hP.1, ?_, ?_⟩, forall_mem_mid.mpr ⟨hok, (forall_mem_mid.mp hL).2⟩⟩
  · intro a ha f hfb
    rw [hf] at hfb
    exact hP.2.1 a ha f hfb
  · intro b hb f hfb
    refine ⟨?_, hhi b hb f hfb⟩
    rw [hf]; exact (hP.2.2 b hb f hfb).1

/-- a leaf may be cut anywhere in a sorted run of entries that fits its interval -/
theorem LayerCore.split {pre post : List Leaf} {leaf left right : Leaf} {h : Ent} {hs : List Ent}
    (hc : LayerCore (pre ++ leaf :: post)) (hfl : left.fence = leaf.fence)
    (hfr : right.fence = some h.kt) (hr : right.ents = h :: hs) (hne : left.ents ≠ [])
    (hll : left.ents.length ≤ 15) (hlr : right.ents.length ≤ 15)
    (hwf : ∀ x ∈ left.ents ++ right.ents, x.kt.WF ∧ (x.val = none ↔ x.kt.len = 9))
    (hsort : (left.ents ++ right.ents).Pairwise (fun x y => KT.ltSpec x.kt y.kt = true))
    (hlo : ∀ f ∈ leaf.fence, ∀ x ∈ left.ents ++ right.ents, KT.ltSpec x.kt f = false)
    (hhi : ∀ b ∈ post, ∀ f ∈ b.fence, ∀ x ∈ left.ents ++ right.ents, KT.ltSpec x.kt f = true) :
    LayerCore (pre ++ left :: right :: post) := by
  rw [List.pairwise_append] at hsort
  have inl : ∀ x ∈ left.ents, x ∈ left.ents ++ right.ents := fun x hx => by simp [hx]
  have inr : ∀ x ∈ right.ents, x ∈ left.ents ++ right.ents := fun x hx => by simp [hx]
  have hh : h ∈ right.ents := by rw [hr]; simp
  have hhw := (hwf h (inr h hh)).1
  obtain ⟨y, hy⟩ := List.exists_mem_of_ne_nil _ hne
  have hyh := hsort.2.2 y hy h hh
  -- the old fence is not above `y`, hence below the new one
  have hg : ∀ g ∈ leaf.fence, KT.ltSpec g h.kt = true := by
    intro g hg
    have hpre : pre ≠ [] := by rintro rfl; rw [hc.1.head_fence] at hg; cases hg
    obtain ⟨g', hg', hgw, -⟩ := hc.mid_fence hpre
    rw [hg'] at hg; cases hg
    exact le_lt_trans hgw hhw (hlo g hg' y (inl y hy)) hyh
  have h1 := hc.replace hfl ⟨hll, fun x hx => hwf x (inl x hx), hsort.1, fun f hf x hx =>
    hlo f (hfl ▸ hf) x (inl x hx)⟩ (fun b hb f hf x hx => hhi b hb f hf x (inl x hx))
  have hokr : LeafOK right := by
    refine ⟨hlr, fun x hx => hwf x (inr x hx), hsort.2.1, ?_⟩
    intro f hf x hx
    rw [hfr] at hf; cases hf
    rw [hr] at hx
    rcases List.mem_cons.mp hx with rfl | hx
    · exact KT.ltSpec_irrefl _
    · exact lt_asymm ((List.pairwise_cons.mp (hr ▸ hsort.2.1)).1 x hx)
  have e : pre ++ left :: right :: post = (pre ++ [left]) ++ right :: post := by simp
  rw [e, LayerCore.mid (by simp)]
  refine ⟨by simpa using h1, ⟨h.kt, hfr, hhw, len_ne_zero_of_lt hyh⟩, hokr, ?_, ?_⟩
  · intro a ha
    have hlt : ∀ f ∈ right.fence, ∀ g ∈ leaf.fence, KT.ltSpec g f = true := by
      intro f hf; rw [hfr] at hf; cases hf; exact hg
    rcases List.mem_append.mp ha with ha | ha
    · obtain ⟨g, hgf, -⟩ := hc.mid_fence (List.ne_nil_of_mem ha)
      exact (hc.pre_before a ha).of_fence_lt hgf (fun f hf => hlt f hf g hgf)
    · rw [List.mem_singleton.mp ha]
      intro f hf
      refine ⟨by rw [hfl]; exact hlt f hf, ?_⟩
      rw [hfr] at hf; cases hf
      exact fun x hx => hsort.2.2 x hx h hh
  · intro b hb f hf
    refine ⟨?_, fun x hx => hhi b hb f hf x (inr x hx)⟩
    intro g hg'
    rw [hfr] at hg'; cases hg'
    exact hhi b hb f hf h (inr h hh)

/-- the right neighbour absorbs the range; for the left one: `((LayerCore.mid _).mp h).1` -/
theorem LayerCore.unlink_right {pre post : List Leaf} {leaf nx : Leaf}
    (h : LayerCore (pre ++ leaf :: nx :: post)) :
    LayerCore (pre ++ { nx with fence := leaf.fence } :: post) := by
  have e : pre ++ leaf :: nx :: post = (pre ++ [leaf]) ++ nx :: post := by simp
  rw [e, LayerCore.mid (by simp)] at h
  obtain ⟨h1, ⟨f, hf, -⟩, hnx, hb, hbp⟩ := h
  rw [List.append_assoc] at h1
  refine LayerCore.replace h1 rfl ⟨hnx.1, hnx.2.1, hnx.2.2.1, ?_⟩
    (fun b hb' f' hf' => (hbp b hb' f' hf').2)
  -- the entries of `nx` are not below its old fence, which is above the one it takes over
  intro g hg x hx
  have h1 := (hb leaf (by simp) f hf).1 g hg
  have h2 := hnx.2.2.2 f hf x hx
  cases h3 : KT.ltSpec x.kt g with
  | false => rfl
  | true => rw [KT.ltSpec_trans _ _ _ h3 h1] at h2; cases h2

theorem sorted_insert_decomp {k : KT} (hk : k.WF) : ∀ (ents : List Ent),
    (∀ e ∈ ents, e.kt.WF) → ents.Pairwise (fun a b => KT.ltSpec a.kt b.kt = true) →
    (∀ e ∈ ents, e.kt ≠ k) →
    ∃ a b, ents = a ++ b ∧ (∀ x ∈ a, KT.ltSpec x.kt k = true) ∧ (∀ x ∈ b, KT.ltSpec k x.kt = true)
  | [], _, _, _ => ⟨[], [], rfl, by simp, by simp⟩
  | x :: xs, hw, hs, hn => by
    rw [List.pairwise_cons] at hs
    rcases KT.ltSpec_total x.kt k (hw x (by simp)) hk with h | h | h
    · obtain ⟨a, b, h1, h2, h3⟩ := sorted_insert_decomp hk xs (fun e he => hw e (by simp [he])) hs.2
        (fun e he => hn e (by simp [he]))
      exact ⟨x :: a, b, by rw [h1]; rfl, List.forall_mem_cons.mpr ⟨h, h2⟩, h3⟩
    · exact absurd h (hn x (by simp))
    · exact ⟨[], x :: xs, rfl, by simp,
        List.forall_mem_cons.mpr ⟨h, fun y hy => KT.ltSpec_trans _ _ _ h (hs.1 y hy)⟩⟩

/-- `compute_rank_if_insert` counts the entries below the key. -/
theorem rank_eq_of_decomp {k : KT} (hk : k.WF) {ents a b : List Ent} (h0 : ents = a ++ b)
    (hw : ∀ e ∈ ents, e.kt.WF) (hs : ents.Pairwise (fun a b => KT.ltSpec a.kt b.kt = true))
    (ha : ∀ x ∈ a, KT.ltSpec x.kt k = true) (hb : ∀ x ∈ b, KT.ltSpec k x.kt = true) :
    rankIfInsert k (ents.map (·.kt)) = a.length := by
  have hn : k ∉ ents.map (·.kt) := by
    rw [h0, List.mem_map]
    rintro ⟨e, he, hek⟩
    rcases List.mem_append.mp he with he | he
    · exact lt_ne (ha e he) hek
    · exact lt_ne' (hb e he) hek
  rw [rankIfInsert_eq k _ hk (by simpa using hw) (List.pairwise_map.mpr hs) hn, h0, List.map_append,
    List.filter_append, List.filter_eq_self.mpr (by simpa using ha),
    List.filter_eq_nil_iff.mpr (by simpa using fun x hx => lt_asymm (hb x hx))]
  simp

theorem insertIdx'_append {α} (a b : List α) (x : α) : insertIdx' (a ++ b) a.length x = a ++ x :: b := by
  simp [insertIdx']

theorem insertIdx'_take_drop {α} (l : List α) (x : α) (r n : Nat) :
    (r ≤ n → insertIdx' (l.take n) r x ++ l.drop n = insertIdx' l r x) ∧
    (n ≤ r → l.take n ++ insertIdx' (l.drop n) (r - n) x = insertIdx' l r x) := by
  unfold insertIdx'
  constructor
  · intro h
    rw [List.take_take, Nat.min_eq_left h, List.drop_take, List.append_assoc, List.cons_append]
    conv => rhs; rw [← List.take_append_drop (n - r) (l.drop r)]
    rw [List.drop_drop, show r + (n - r) = n by omega]
  · intro h
    rw [List.take_drop, List.drop_drop, show n + (r - n) = r by omega, ← List.append_assoc]
    congr 1
    conv => rhs; rw [← List.take_append_drop n (l.take r)]
    rw [List.take_take, Nat.min_eq_left h]

/-- `border_split` with `n` entries remaining: the sorted insertion `a ++ e :: b` cut after `n` or
    `n + 1` entries. The two `if`s are those of the unfolded `insLeaves`, to rewrite there. -/
theorem split_shape {ents a b : List Ent} {e : Ent} {n : Nat} (h0 : ents = a ++ b)
    (hn : n < ents.length) (hew : e.kt.WF) (hw : ∀ x ∈ ents, x.kt.WF)
    (ha : ∀ x ∈ a, KT.ltSpec x.kt e.kt = true) (hb : ∀ x ∈ b, KT.ltSpec e.kt x.kt = true) :
    ∃ lo' h hs,
      (if borderSplitLower e.kt ((ents.drop n).headD default).kt a.length n then
          insertIdx' (ents.take n) a.length e else ents.take n) = lo' ∧
      (if borderSplitLower e.kt ((ents.drop n).headD default).kt a.length n then
          ents.drop n else insertIdx' (ents.drop n) (a.length - n) e) = h :: hs ∧
      h.kt = ((ents.drop n).headD default).kt ∧
      lo' ++ h :: hs = a ++ e :: b ∧ n ≤ lo'.length ∧ lo'.length ≤ n + 1 := by
  have hd := List.drop_eq_getElem_cons hn
  have ins : insertIdx' ents a.length e = a ++ e :: b := h0 ▸ insertIdx'_append a b e
  have hlen : (ents.take n).length = n := by rw [List.length_take]; omega
  have hnw := hw _ (List.getElem_mem hn)
  rw [hd, List.headD_cons]
  by_cases hr : a.length ≤ n
  · have hlt : KT.ltSpec e.kt ents[n].kt = true := by
      apply hb; subst h0; rw [List.getElem_append_right hr]; exact List.getElem_mem _
    rw [borderSplitLower_eq _ _ _ _ hew hnw (lt_ne hlt) (fun _ => hlt), hlt, if_pos rfl, if_pos rfl]
    refine ⟨_, _, _, rfl, rfl, rfl, ?_, ?_, ?_⟩
    · rw [← hd, (insertIdx'_take_drop _ _ _ _).1 hr, ins]
    · simp only [insertIdx', List.length_append, List.length_cons, List.length_take, List.length_drop]; omega
    · simp only [insertIdx', List.length_append, List.length_cons, List.length_take, List.length_drop]; omega
  · have hgt : KT.ltSpec ents[n].kt e.kt = true := by
      apply ha; subst h0; rw [List.getElem_append_left (by omega)]; exact List.getElem_mem _
    rw [borderSplitLower_eq _ _ _ _ hew hnw (lt_ne' hgt) (fun h => absurd h (by omega)), lt_asymm hgt]
    simp only [Bool.false_eq_true, if_false]
    obtain ⟨m, hm⟩ : ∃ m, a.length - n = m + 1 := ⟨a.length - n - 1, by omega⟩
    refine ⟨_, ents[n], insertIdx' (ents.drop (n + 1)) m e, rfl, by rw [hm]; rfl, rfl, ?_, by omega, by omega⟩
    rw [← ins, ← (insertIdx'_take_drop ents e a.length n).2 (by omega), hd, hm]
    rfl

end Yak.Tree
