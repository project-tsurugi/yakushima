import YakModel.Proto.Session
/-!
# Invariants of the session table model `Session`

* `step?_iff` : the executable acceptor and the relation `Step` coincide; `Step.frame` : a step
  touches the pc and the open sessions of its own thread only. Every invariant below is preserved
  by looking at that one thread.
* `Inv` : slot ownership. Every slot whose `running` flag is set is *claimed* by exactly one
  (thread, call) — a thread between its successful CAS and its `running := false` store — and
  conversely. This gives distinct tokens and the capacity bound.
* `BInv` : `begin[i]` is a valid (non-zero, not in the future) epoch from the moment the token is
  about to be returned until `leave` is called.
* `probing` : the position of a thread in the slot loop of `enter`. An `enter` that gives up has
  observed every slot occupied (`Observed`); run alone from a quiescent state (`SoloInv`) it
  returns the lowest free slot.
-/
namespace Yak.Proto.Session

variable {c : Cfg} {s s' : State} {e : Event} {t : Nat}

@[simp] theorem upd_same {α} (f : Nat → α) (t : Nat) (v : α) : upd f t v t = v := by simp [upd]
theorem upd_other {α} (f : Nat → α) (t : Nat) (v : α) (i : Nat) (h : i ≠ t) : upd f t v i = f i := by
  simp [upd, h]

theorem step?_of_Step (h : Step c s e s') :
    step? c s e = some s' := by
  cases h <;> simp_all [step?, scanIdx]

theorem Step_of_step? (h : step? c s e = some s') :
    Step c s e s' := by
  cases e with
  | ldRunning t i v =>
    simp only [step?, Option.ite_none_right_eq_some, Option.some.injEq] at h
    obtain ⟨⟨h1, h2, rfl⟩, rfl⟩ := h
    exact .ldRunning s t i h1 h2
  | casRunning t i ok =>
    simp only [step?, Option.ite_none_right_eq_some] at h
    obtain ⟨hpc, h⟩ := h
    cases ok with
    | true =>
      simp only [if_true, Option.ite_none_right_eq_some, Option.some.injEq] at h
      obtain ⟨hf, rfl⟩ := h
      exact .casOk s t i hpc hf
    | false => cases h; exact .casFail s t i hpc
  | ldEpoch t e =>
    simp only [step?] at h
    split at h
    · rename_i i hpc
      simp only [Option.ite_none_right_eq_some, Option.some.injEq] at h
      obtain ⟨rfl, rfl⟩ := h
      exact .ldEpoch s t i hpc
    · cases h
  | stBegin t i e =>
    simp only [step?] at h
    split at h
    · rename_i hpc; cases h; exact .stBeginEnter s t i e hpc
    · simp only [Option.ite_none_right_eq_some, Option.some.injEq] at h
      obtain ⟨⟨hpc, rfl⟩, rfl⟩ := h
      exact .stBeginLeave s t i hpc
  | enterRet t tok =>
    cases tok with
    | some i =>
      simp only [step?, Option.ite_none_right_eq_some, Option.some.injEq] at h
      obtain ⟨hpc, rfl⟩ := h
      exact .enterRetOk s t i hpc
    | none =>
      simp only [step?] at h
      split at h
      · rename_i i hpc
        simp only [Option.ite_none_right_eq_some, Option.some.injEq] at h
        obtain ⟨hi, rfl⟩ := h
        exact .enterRetFull s t i hpc hi
      · cases h
  | leaveCall t i =>
    simp only [step?, Option.ite_none_right_eq_some, Option.some.injEq] at h
    obtain ⟨⟨hpc, hown⟩, rfl⟩ := h
    exact .leaveCall s t i hpc hown
  | stRunning t i v =>
    simp only [step?, Option.ite_none_right_eq_some, Option.some.injEq] at h
    obtain ⟨⟨hpc, rfl⟩, rfl⟩ := h
    exact .stRunning s t i hpc
  | leaveRet t =>
    simp only [step?] at h
    split at h
    · rename_i i hpc; cases h; exact .leaveRet s t i hpc
    · cases h
  | epochInc => cases h; exact .epochInc s

theorem step?_iff : step? c s e = some s' ↔ Step c s e s' :=
  ⟨Step_of_step?, step?_of_Step⟩

theorem Step.frame (hs : Step c s e s')
    (ht : e.thread? ≠ some t) : s'.pc t = s.pc t ∧ s'.held t = s.held t := by
  cases hs
  case epochInc => exact ⟨rfl, rfl⟩
  all_goals
    have ht' : t ≠ _ := fun h => ht (congrArg some h.symm)
    simp [upd_other _ _ _ _ ht']

theorem Step.others (hs : Step c s e s') {t' : Nat}
    (ht : e.thread? = some t) (h : t' ≠ t) :
    s'.pc t' = s.pc t' ∧ s'.held t' = s.held t' ∧ claims s' t' = claims s t' := by
  have := hs.frame (t := t') (by rw [ht]; exact fun h' => h (Option.some.inj h').symm)
  simp only [claims, this, and_self]

theorem exec_cons {es : List Event} :
    exec c s (e :: es) = some s' ↔ ∃ s1, Step c s e s1 ∧ exec c s1 es = some s' := by
  simp only [exec]
  cases h : step? c s e <;> simp [← step?_iff, h]

theorem exec_append (c : Cfg) : ∀ (es1 es2 : List Event) (s : State),
    exec c s (es1 ++ es2) = (exec c s es1).bind (fun s' => exec c s' es2)
  | [], _, _ => rfl
  | e :: es1, es2, s => by
    simp only [List.cons_append, exec]
    cases step? c s e with
    | none => rfl
    | some s1 => exact exec_append c es1 es2 s1

theorem exec_snoc {es : List Event} :
    exec c s (es ++ [e]) = some s' ↔ ∃ s1, exec c s es = some s1 ∧ Step c s1 e s' := by
  rw [exec_append]
  cases exec c s es with
  | none => simp
  | some s1 =>
    show exec c s1 [e] = some s' ↔ _
    rw [exec_cons]
    simp [exec]

/-- induction over an accepted trace, looking at its last event -/
theorem exec_induction {s0 : State} {P : List Event → State → Prop} (h0 : P [] s0)
    (hstep : ∀ {es s e s'}, exec c s0 es = some s → P es s → Step c s e s' → P (es ++ [e]) s') :
    ∀ {es s}, exec c s0 es = some s → P es s := by
  suffices ∀ es2 es1 s1, exec c s0 es1 = some s1 → P es1 s1 →
      ∀ s, exec c s1 es2 = some s → P (es1 ++ es2) s from
    fun {es s} h => this es [] s0 rfl h0 s h
  intro es2
  induction es2 with
  | nil => intro es1 s1 _ h1 s h; cases h; simpa using h1
  | cons e es2 ih =>
    intro es1 s1 hex h1 s h
    obtain ⟨s2, hs, h⟩ := exec_cons.mp h
    have := ih (es1 ++ [e]) s2 (exec_snoc.mpr ⟨s1, hex, hs⟩) (hstep hex h1 hs) s h
    simpa using this

theorem reach_exec {es : List Event} (hr : Reach c s)
    (h : exec c s es = some s') : Reach c s' :=
  exec_induction (P := fun _ s => Reach c s) hr (fun _ hr hs => .step hr hs) h

theorem reach_iff_exec : Reach c s ↔ ∃ es, exec c (init c) es = some s := by
  refine ⟨fun h => ?_, fun ⟨es, h⟩ => reach_exec .init h⟩
  induction h with
  | init => exact ⟨[], rfl⟩
  | step _ hs ih =>
    obtain ⟨es, hes⟩ := ih
    exact ⟨es ++ [_], exec_snoc.mpr ⟨_, hes, hs⟩⟩

/-- `t` is in the slot loop of `enter` at slot `i`, before or after testing `expected` -/
def probing (p : Pc) (i : Nat) : Prop := scanIdx p = some i ∨ p = .cas i

theorem pcClaim_of_probing {p : Pc} {i : Nat} (h : probing p i) : pcClaim p = [] := by
  cases p <;> simp_all [probing, scanIdx, pcClaim]

@[simp] theorem pcClaim_afterTest (i : Nat) (v : Bool) : pcClaim (afterTest i v) = [] := by
  cases v <;> rfl

@[simp] theorem pcClaim_idle : pcClaim .idle = [] := rfl

theorem afterTest_cas {i j : Nat} {v : Bool} (h : afterTest i v = .cas j) : j = i := by
  cases v <;> simp [afterTest] at h
  exact h.symm

@[simp] theorem afterTest_ne_ret (i j : Nat) (v : Bool) : afterTest i v ≠ .ret j := by
  cases v <;> simp [afterTest]

@[simp] theorem afterTest_ne_got (i j e : Nat) (v : Bool) : afterTest i v ≠ .gotEpoch j e := by
  cases v <;> simp [afterTest]

theorem held_sub_claims {i : Nat} (h : i ∈ s.held t) : i ∈ claims s t :=
  List.mem_append_right _ h

structure Inv (c : Cfg) (s : State) : Prop where
  nodup : ∀ t, (claims s t).Nodup
  excl : ∀ t1 t2 i, i ∈ claims s t1 → i ∈ claims s t2 → t1 = t2
  occ : ∀ t i, i ∈ claims s t → s.running i = true ∧ i < c.N
  owned : ∀ i, s.running i = true → ∃ t, i ∈ claims s t
  /-- not about ownership: kept here so that a successful CAS on slot `i` can supply `i < N`
      for `occ` -/
  cas_lt : ∀ t i, s.pc t = .cas i → i < c.N

theorem inv_init (c : Cfg) : Inv c (init c) := by
  constructor <;> simp [init, claims, pcClaim]

theorem Inv.cas_frame (hinv : Inv c s) (hs : Step c s e s') (ht : e.thread? = some t)
    (hcas : ∀ i, s'.pc t = .cas i → i < c.N) : ∀ t' i, s'.pc t' = .cas i → i < c.N := by
  intro t' i h
  by_cases ht' : t' = t
  · exact hcas i (ht' ▸ h)
  · exact hinv.cas_lt t' i ((hs.others ht ht').1 ▸ h)

/-! A step leaves `running` alone and permutes its thread's claims (`Inv.shuffle`), or sets the flag
of a free slot and adds it to them (`Inv.acquire`: a successful CAS), or clears the flag of a claimed
slot and removes it (`Inv.release`: the last store of `leave`). -/

theorem Inv.shuffle (hinv : Inv c s) (hs : Step c s e s') (t : Nat) (ht : e.thread? = some t)
    (hrun : s'.running = s.running) (hperm : (claims s' t).Perm (claims s t))
    (hcas : ∀ i, s'.pc t = .cas i → i < c.N) : Inv c s' := by
  have hp : ∀ t', (claims s' t').Perm (claims s t') := fun t' => by
    by_cases ht' : t' = t
    · exact ht' ▸ hperm
    · rw [(hs.others ht ht').2.2]
  refine ⟨fun t' => (hp t').nodup_iff.mpr (hinv.nodup t'), fun t1 t2 i h1 h2 =>
    hinv.excl t1 t2 i ((hp t1).mem_iff.mp h1) ((hp t2).mem_iff.mp h2), fun t' i h => ?_,
    fun i h => ?_, hinv.cas_frame hs ht hcas⟩
  · rw [hrun]; exact hinv.occ t' i ((hp t').mem_iff.mp h)
  · obtain ⟨t', ht'⟩ := hinv.owned i (hrun ▸ h)
    exact ⟨t', (hp t').mem_iff.mpr ht'⟩

theorem Inv.acquire (hinv : Inv c s) (hs : Step c s e s') (t : Nat) (ht : e.thread? = some t) {i : Nat}
    (hfree : s.running i = false) (hi : i < c.N) (hrun : s'.running = upd s.running i true)
    (hme : claims s' t = i :: claims s t) (hcas : ∀ j, s'.pc t ≠ .cas j) : Inv c s' := by
  have hnone : ∀ t', i ∉ claims s t' := fun t' h =>
    Bool.eq_false_iff.mp hfree (hinv.occ t' i h).1
  have hmem : ∀ t' j, j ∈ claims s' t' ↔ (j = i ∧ t' = t) ∨ j ∈ claims s t' := fun t' j => by
    by_cases ht' : t' = t
    · subst ht'; simp [hme]
    · simp [(hs.others ht ht').2.2, ht']
  refine ⟨fun t' => ?_, fun t1 t2 j h1 h2 => ?_, fun t' j h => ?_, fun j h => ?_,
    hinv.cas_frame hs ht fun j h => absurd h (hcas j)⟩
  · by_cases ht' : t' = t
    · subst ht'; rw [hme]; exact List.nodup_cons.mpr ⟨hnone _, hinv.nodup _⟩
    · rw [(hs.others ht ht').2.2]; exact hinv.nodup t'
  · rcases (hmem _ _).mp h1 with ⟨rfl, rfl⟩ | h1 <;> rcases (hmem _ _).mp h2 with ⟨hj, rfl⟩ | h2
    · rfl
    · exact absurd h2 (hnone _)
    · exact absurd (hj ▸ h1) (hnone _)
    · exact hinv.excl _ _ _ h1 h2
  · rw [hrun]
    rcases (hmem _ _).mp h with ⟨rfl, _⟩ | h
    · exact ⟨upd_same _ _ _, hi⟩
    · have hj : j ≠ i := fun hj => hnone t' (hj ▸ h)
      rw [upd_other _ _ _ _ hj]; exact hinv.occ t' j h
  · by_cases hj : j = i
    · exact ⟨t, (hmem _ _).mpr (.inl ⟨hj, rfl⟩)⟩
    · rw [hrun, upd_other _ _ _ _ hj] at h
      obtain ⟨t', ht'⟩ := hinv.owned j h
      exact ⟨t', (hmem _ _).mpr (.inr ht')⟩

theorem Inv.release (hinv : Inv c s) (hs : Step c s e s') (t : Nat) (ht : e.thread? = some t) {i : Nat}
    (hrun : s'.running = upd s.running i false) (hme : claims s t = i :: claims s' t)
    (hcas : ∀ j, s'.pc t ≠ .cas j) : Inv c s' := by
  have hnd := hme ▸ hinv.nodup t
  have hmem : ∀ t' j, j ∈ claims s' t' ↔ j ∈ claims s t' ∧ j ≠ i := fun t' j => by
    by_cases ht' : t' = t
    · subst ht'
      rw [hme, List.mem_cons]
      exact ⟨fun h => ⟨.inr h, fun hj => (List.nodup_cons.mp hnd).1 (hj ▸ h)⟩,
        fun h => h.1.resolve_left h.2⟩
    · rw [(hs.others ht ht').2.2]
      exact ⟨fun h => ⟨h, fun hj => ht' (hinv.excl t' t j h (by simp [hme, hj]))⟩, And.left⟩
  refine ⟨fun t' => ?_, fun t1 t2 j h1 h2 => ?_, fun t' j h => ?_, fun j h => ?_,
    hinv.cas_frame hs ht fun j h => absurd h (hcas j)⟩
  · by_cases ht' : t' = t
    · subst ht'; exact (List.nodup_cons.mp hnd).2
    · rw [(hs.others ht ht').2.2]; exact hinv.nodup t'
  · exact hinv.excl _ _ _ ((hmem _ _).mp h1).1 ((hmem _ _).mp h2).1
  · obtain ⟨h, hj⟩ := (hmem _ _).mp h
    rw [hrun, upd_other _ _ _ _ hj]; exact hinv.occ t' j h
  · have hj : j ≠ i := fun hj => by simp [hrun, hj] at h
    rw [hrun, upd_other _ _ _ _ hj] at h
    obtain ⟨t', ht'⟩ := hinv.owned j h
    exact ⟨t', (hmem _ _).mpr ⟨ht', hj⟩⟩

theorem inv_step (hinv : Inv c s) (hs : Step c s e s') : Inv c s' := by
  have shuffle := hinv.shuffle hs
  have acquire := hinv.acquire hs
  have release := hinv.release hs
  cases hs with
  | epochInc => exact ⟨hinv.nodup, hinv.excl, hinv.occ, hinv.owned, hinv.cas_lt⟩
  | ldRunning t i hpc hi =>
    refine shuffle t rfl rfl ?_ fun j hj => ?_
    · simp [claims, pcClaim_of_probing (.inl hpc)]
    · simp only [upd_same] at hj; rw [afterTest_cas hj]; exact hi
  | casFail t i hpc =>
    refine shuffle t rfl rfl ?_ fun j hj => ?_
    · simp [claims, pcClaim_of_probing (.inr hpc)]
    · simp only [upd_same] at hj; rw [afterTest_cas hj]; exact hinv.cas_lt t i hpc
  | casOk t i hpc hfree =>
    exact acquire t rfl hfree (hinv.cas_lt t i hpc) rfl (by simp [claims, hpc, pcClaim]) (by simp)
  | stRunning t i hpc =>
    exact release t rfl rfl (by simp [claims, hpc, pcClaim]) (by simp)
  | enterRetFull t i hpc hi =>
    exact shuffle t rfl rfl (by simp [claims, pcClaim_of_probing (.inl hpc)]) (by simp)
  | leaveCall t i hpc hown =>
    exact shuffle t rfl rfl
      (by simpa [claims, hpc, pcClaim] using (List.perm_cons_erase hown).symm) (by simp)
  -- the claimed slot stays where it is, or moves from the pc to the open sessions
  | ldEpoch t _ hpc | stBeginEnter t _ _ hpc | enterRetOk t _ hpc | stBeginLeave t _ hpc
  | leaveRet t _ hpc =>
    exact shuffle t rfl rfl (by simp [claims, hpc, pcClaim]) (by simp)

theorem inv_reach (h : Reach c s) : Inv c s := by
  induction h with
  | init => exact inv_init c
  | step _ hs ih => exact inv_step ih hs

theorem tokens_distinct {c : Cfg} {s : State} (h : Reach c s) :
    (∀ t1 t2 i, i ∈ s.held t1 → i ∈ s.held t2 → t1 = t2) ∧ (∀ t, (s.held t).Nodup) :=
  have hinv := inv_reach h
  ⟨fun t1 t2 i h1 h2 => hinv.excl t1 t2 i (held_sub_claims h1) (held_sub_claims h2),
    fun t => (List.nodup_append.mp (hinv.nodup t)).2.1⟩

theorem held_lt_running (h : Reach c s) {i : Nat} (hi : i ∈ s.held t) :
    i < c.N ∧ s.running i = true :=
  ((inv_reach h).occ t i (held_sub_claims hi)).symm

theorem flatMap_held_nodup (h : Reach c s) (ts : List Nat) (hts : ts.Nodup) :
    (ts.flatMap s.held).Nodup :=
  have hd := tokens_distinct h
  List.pairwise_flatMap.mpr ⟨fun t _ => hd.2 t,
    hts.imp fun hne x hx y hy (hxy : x = y) => hne (hd.1 _ _ x hx (hxy ▸ hy))⟩

theorem flatMap_held_subset (h : Reach c s) (ts : List Nat) : ts.flatMap s.held ⊆ List.range c.N := by
  intro x hx
  obtain ⟨t, _, hxt⟩ := List.mem_flatMap.mp hx
  exact List.mem_range.mpr (held_lt_running h hxt).1

theorem open_le_capacity {c : Cfg} {s : State} (h : Reach c s) (ts : List Nat) (hts : ts.Nodup) :
    (ts.flatMap s.held).length ≤ c.N :=
  List.length_range (n := c.N) ▸ (flatMap_held_nodup h ts hts).length_le_of_subset (flatMap_held_subset h ts)

theorem length_lt_iff_missing {l : List Nat} {n : Nat} (hnd : l.Nodup) (hsub : l ⊆ List.range n) :
    l.length < n ↔ ∃ i, i < n ∧ i ∉ l := by
  constructor
  · intro hlt
    apply Classical.byContradiction
    intro hno
    have := List.nodup_range.length_le_of_subset (l₂ := l) fun x hx =>
      Classical.byContradiction fun hx' => hno ⟨x, List.mem_range.mp hx, hx'⟩
    rw [List.length_range] at this
    omega
  · intro ⟨i, hi, hil⟩
    have := (List.nodup_cons.mpr ⟨hil, hnd⟩).length_le_of_subset
      (List.cons_subset.mpr ⟨List.mem_range.mpr hi, hsub⟩)
    rw [List.length_range, List.length_cons] at this
    omega

theorem open_count_lt_iff_free (h : Reach c s) (ts : List Nat) (hts : ts.Nodup)
    (hcover : ∀ t, t ∉ ts → s.held t = []) :
    (ts.flatMap s.held).length < c.N ↔ ∃ i, i < c.N ∧ ∀ t', i ∉ s.held t' := by
  rw [length_lt_iff_missing (flatMap_held_nodup h ts hts) (flatMap_held_subset h ts)]
  refine exists_congr fun i => and_congr_right fun _ => ⟨fun hi t' ht' => hi ?_, fun hi hm => ?_⟩
  · refine List.mem_flatMap.mpr ⟨t', Classical.byContradiction fun hn => ?_, ht'⟩
    rw [hcover t' hn] at ht'
    cases ht'
  · obtain ⟨t', _, ht'⟩ := List.mem_flatMap.mp hm
    exact hi t' ht'

structure BInv (s : State) : Prop where
  epoch_pos : 1 ≤ s.epoch
  got : ∀ t i e, s.pc t = .gotEpoch i e → 1 ≤ e ∧ e ≤ s.epoch
  begun : ∀ t i, (s.pc t = .ret i ∨ i ∈ s.held t) → 1 ≤ s.begin i ∧ s.begin i ≤ s.epoch

theorem opens_sub_claims {i : Nat} (h : s.pc t = .ret i ∨ i ∈ s.held t) : i ∈ claims s t := by
  rcases h with h | h
  · simp [claims, h, pcClaim]
  · exact held_sub_claims h

theorem binv_init (c : Cfg) (h0 : 1 ≤ c.epoch0) : BInv (init c) := by
  constructor <;> simp [init, h0]

/-- For a step of `t` only `t`'s own clauses have to be looked at, and the slots of `begin` that
    some session relies on and that changed. -/
theorem BInv.local (hb : BInv s) (hs : Step c s e s') (t : Nat) (ht : e.thread? = some t)
    (hep : s'.epoch = s.epoch)
    (hgot : ∀ i e, s'.pc t = .gotEpoch i e → 1 ≤ e ∧ e ≤ s.epoch)
    (hret : ∀ i, s'.pc t = .ret i → 1 ≤ s'.begin i ∧ s'.begin i ≤ s.epoch)
    (hheld : ∀ i, i ∈ s'.held t → s.pc t = .ret i ∨ i ∈ s.held t)
    (hbeg : ∀ t' i, (s'.pc t' = .ret i ∨ i ∈ s'.held t') →
      s'.begin i = s.begin i ∨ (1 ≤ s'.begin i ∧ s'.begin i ≤ s.epoch)) : BInv s' := by
  refine ⟨hep ▸ hb.epoch_pos, fun t' i e h => ?_, fun t' i h => ?_⟩ <;> rw [hep]
  · by_cases ht' : t' = t
    · exact hgot i e (ht' ▸ h)
    · exact hb.got t' i e ((hs.others ht ht').1 ▸ h)
  · rcases hbeg t' i h with hsame | hok
    · rw [hsame]
      by_cases ht' : t' = t
      · subst ht'
        rcases h with h | h
        · exact hsame ▸ hret i h
        · exact hb.begun t' i (hheld i h)
      · exact hb.begun t' i (by rwa [(hs.others ht ht').1, (hs.others ht ht').2.1] at h)
    · exact hok

theorem binv_step (hinv : Inv c s) (hb : BInv s) (hs : Step c s e s') : BInv s' := by
  have hinv' := inv_step hinv hs
  have loc := hb.local hs
  cases hs with
  | epochInc =>
    refine ⟨Nat.le_succ_of_le hb.epoch_pos, fun t i e h => ?_, fun t i h => ?_⟩
    · exact ⟨(hb.got t i e h).1, Nat.le_succ_of_le (hb.got t i e h).2⟩
    · exact ⟨(hb.begun t i h).1, Nat.le_succ_of_le (hb.begun t i h).2⟩
  | ldEpoch t i hpc =>
    exact loc t rfl rfl
      (by simp only [upd_same, Pc.gotEpoch.injEq]; rintro _ _ ⟨_, rfl⟩; exact ⟨hb.epoch_pos, Nat.le_refl _⟩)
      (by simp) (fun _ h => .inr h) fun _ _ _ => .inl rfl
  | stBeginEnter t i e hpc =>
    refine loc t rfl rfl (by simp) ?_ (fun _ h => .inr h) fun _ j _ => ?_
    · simp only [upd_same, Pc.ret.injEq]; rintro _ rfl; simpa using hb.got t i e hpc
    · by_cases hj : j = i
      · subst hj; exact .inr (by simp only [upd_same]; exact hb.got t j e hpc)
      · exact .inl (upd_other _ _ _ _ hj)
  | enterRetOk t i hpc =>
    refine loc t rfl rfl (by simp) (by simp) (fun j h => ?_)
      fun _ _ _ => .inl rfl
    simp only [upd_same, List.mem_cons] at h
    exact h.imp (fun (hj : j = i) => hj ▸ hpc) id
  | leaveCall t i hpc hown =>
    exact loc t rfl rfl (by simp) (by simp)
      (fun _ h => .inr (List.mem_of_mem_erase (by simpa using h))) fun _ _ _ => .inl rfl
  | stBeginLeave t i hpc =>
    -- `t` claims slot `i` for the rest of its `leave`, so no session on `i` is open
    refine loc t rfl rfl (by simp) (by simp) (fun _ h => .inr h)
      fun t' j h => .inl (upd_other _ _ _ _ ?_)
    rintro rfl
    have ht' := hinv'.excl t' t j (opens_sub_claims h) (by simp [claims, pcClaim])
    subst ht'
    have := hinv'.nodup t'
    simp [claims, pcClaim] at this h
    exact this.1 h
  -- neither `begin` nor `held` changes, and the new pc is neither `gotEpoch` nor `ret`
  | ldRunning t | casFail t | casOk t | enterRetFull t | stRunning t | leaveRet t =>
    exact loc t rfl rfl (by simp) (by simp) (fun _ h => .inr h) fun _ _ _ => .inl rfl

theorem binv_reach (h0 : 1 ≤ c.epoch0) (h : Reach c s) : BInv s := by
  induction h with
  | init => exact binv_init c h0
  | step hr hs ih => exact binv_step (inv_reach hr) ih hs

theorem probing_afterTest {k i : Nat} {v : Bool} :
    probing (afterTest k v) i ↔ (v = true ∧ i = k + 1) ∨ (v = false ∧ i = k) := by
  cases v <;> simp [probing, afterTest, scanIdx, eq_comm]

/-- a step of `t` either ends a call, or takes `t` out of the slot loop, or is a test of
    `running[k]` at the slot `k` the loop has reached -/
theorem probing_step (hs : Step c s e s') (ht : e.thread? = some t) {i : Nat}
    (hi : probing (s'.pc t) i) :
    s'.pc t = .idle ∨ ∃ k, probing (s.pc t) k ∧ s'.pc t = afterTest k (s.running k) ∧
      (e = .ldRunning t k (s.running k) ∨ e = .casRunning t k false) := by
  cases hs with
  | ldRunning _ k hpc => cases ht; exact .inr ⟨k, .inl hpc, upd_same _ _ _, .inl rfl⟩
  | casFail _ k hpc => cases ht; exact .inr ⟨k, .inr hpc, upd_same _ _ _, .inr rfl⟩
  | enterRetOk | enterRetFull | leaveRet => cases ht; exact .inl (upd_same _ _ _)
  | _ => cases ht <;> simp [probing, scanIdx] at hi

/-- Inside the trace `es` (started in `s0`) there is a step of thread `t` — a load of `running[j]`
    that returned `true`, or a failed CAS on `running[j]` whose refresh of `expected` read `true` —
    taken in a state `s1` in which slot `j` was occupied, and `t` has not returned from `enter`
    since (so the step belongs to `t`'s `enter` call that is in progress at the end of `es`). -/
def Observed (c : Cfg) (s0 : State) (es : List Event) (t j : Nat) : Prop :=
  ∃ es1 e es2 s1, es = es1 ++ e :: es2 ∧ exec c s0 es1 = some s1 ∧ s1.running j = true ∧
    (e = .ldRunning t j true ∨ e = .casRunning t j false) ∧ ∀ e' ∈ es2, ∀ k, e' ≠ .enterRet t k

theorem Observed.snoc {s0 : State} {es : List Event} {j : Nat}
    (h : Observed c s0 es t j) (he : ∀ k, e ≠ .enterRet t k) : Observed c s0 (es ++ [e]) t j := by
  obtain ⟨es1, e0, es2, s1, h1, h2, h3, h4, h5⟩ := h
  refine ⟨es1, e0, es2 ++ [e], s1, by simp [h1], h2, h3, h4, fun e' he' k => ?_⟩
  rcases List.mem_append.mp he' with h | h
  · exact h5 e' h k
  · simp at h; subst h; exact he k

theorem observed_run {s0 : State} {es : List Event} (t : Nat) (h0 : s0.pc t = .idle)
    (h : exec c s0 es = some s) :
    ∀ i, probing (s.pc t) i → ∀ j, j < i → Observed c s0 es t j := by
  refine exec_induction (P := fun es s => ∀ i, probing (s.pc t) i → ∀ j, j < i → Observed c s0 es t j)
    (fun i hi j hj => ?_) (fun {es s e s'} hex ih hs i hi j hj => ?_) h
  · simp [probing, h0, scanIdx] at hi; omega
  · by_cases he : e.thread? = some t
    · rcases probing_step hs he hi with hidle | ⟨k, hk, hpc, hev⟩
      · simp [probing, hidle, scanIdx] at hi; omega
      · have hne : ∀ tok, e ≠ .enterRet t tok := by rcases hev with rfl | rfl <;> simp
        rcases probing_afterTest.mp (hpc ▸ hi) with ⟨hv, rfl⟩ | ⟨_, rfl⟩
        · by_cases hjk : j = k
          · subst hjk; exact ⟨es, e, [], s, rfl, hex, hv, hv ▸ hev, by simp⟩
          · exact (ih k hk j (by omega)).snoc hne
        · exact (ih i hk j hj).snoc hne
    · rw [(hs.frame he).1] at hi
      exact (ih i hi j hj).snoc fun k hk => he (hk ▸ rfl)

theorem max_sessions_observed {s0 : State} {es : List Event}
    (h0 : s0.pc t = .idle) (h : exec c s0 (es ++ [.enterRet t none]) = some s') :
    ∀ j, j < c.N → Observed c s0 es t j := by
  obtain ⟨s1, h1, hs⟩ := exec_snoc.mp h
  intro j hj
  cases hs with
  | enterRetFull _ i hpc hi => exact observed_run t h0 h1 i (.inl hpc) j (by omega)

/-- what thread `t`'s pc may be during its solo `enter`, relative to the flags `r0` at the start -/
def soloPc (c : Cfg) (r0 r : Nat → Bool) : Pc → Prop
  | .idle => r = r0
  | .scan i => r = r0 ∧ ∀ j, j < i → r0 j = true
  | .cas i => r = r0 ∧ (∀ j, j < i → r0 j = true) ∧ r0 i = false ∧ i < c.N
  | .won i | .gotEpoch i _ | .ret i =>
      r = upd r0 i true ∧ (∀ j, j < i → r0 j = true) ∧ r0 i = false ∧ i < c.N
  | _ => False

structure SoloInv (c : Cfg) (s0 : State) (t : Nat) (s : State) : Prop where
  others : ∀ t', t' ≠ t → s.pc t' = .idle
  held : s.held = s0.held
  mine : soloPc c s0.running s.running (s.pc t)

theorem soloPc_of_probing {r0 r : Nat → Bool} {p : Pc} {i : Nat} (h : probing p i)
    (hm : soloPc c r0 r p) : r = r0 ∧ ∀ j, j < i → r0 j = true := by
  cases p <;> simp [probing, scanIdx] at h <;> subst h
  · exact ⟨hm, fun j hj => by omega⟩
  · exact hm
  · exact ⟨hm.1, hm.2.1⟩

theorem soloPc_afterTest {r0 : Nat → Bool} {i : Nat}
    (hlow : ∀ j, j < i → r0 j = true) (hi : i < c.N) :
    soloPc c r0 r0 (afterTest i (r0 i)) := by
  cases hv : r0 i with
  | true =>
    refine ⟨rfl, fun j hj => ?_⟩
    by_cases h : j = i
    · exact h ▸ hv
    · exact hlow j (by omega)
  | false => exact ⟨rfl, hlow, hv, hi⟩

theorem solo_step {s0 : State} (hinv : SoloInv c s0 t s) (hs : Step c s e s')
    (he : e.isEnterStepOf t = true ∨ e = .epochInc) : SoloInv c s0 t s' := by
  rcases he with he | rfl
  · have ht : e.thread? = some t := by
      cases e <;> simp_all [Event.isEnterStepOf, Event.thread?]
    obtain ⟨ho, hh, hm⟩ := hinv
    have ho' : ∀ t', t' ≠ t → s'.pc t' = .idle := fun t' ht' => (hs.others ht ht').1 ▸ ho t' ht'
    cases hs with
    | ldRunning _ i hpc hi =>
      cases ht
      obtain ⟨hr, hlow⟩ := soloPc_of_probing (.inl hpc) hm
      refine ⟨ho', hh, ?_⟩
      simp only [upd_same, hr]
      exact soloPc_afterTest hlow hi
    | casFail _ i hpc =>
      cases ht
      rw [hpc] at hm
      refine ⟨ho', hh, ?_⟩
      simp only [upd_same, hm.1]
      exact soloPc_afterTest hm.2.1 hm.2.2.2
    | casOk _ i hpc hfree =>
      cases ht
      rw [hpc] at hm
      refine ⟨ho', hh, ?_⟩
      simp only [upd_same, hm.1]
      exact ⟨rfl, hm.2⟩
    | ldEpoch _ i hpc | stBeginEnter _ i _ hpc =>
      cases ht
      rw [hpc] at hm
      refine ⟨ho', hh, ?_⟩
      simp only [upd_same]
      exact hm
    -- `isEnterStepOf` also accepts the `stBegin` of a `leave`; only `soloPc` rules it out
    | stBeginLeave _ i hpc => cases ht; rw [hpc] at hm; exact hm.elim
    | _ => cases he
  · cases hs; exact ⟨hinv.others, hinv.held, hinv.mine⟩

theorem solo_run {s0 : State} {es : List Event} (hq : ∀ t', s0.pc t' = .idle)
    (hrun : exec c s0 es = some s) (hsolo : ∀ e ∈ es, e.isEnterStepOf t = true ∨ e = .epochInc) :
    SoloInv c s0 t s := by
  refine exec_induction (P := fun es s => (∀ e ∈ es, e.isEnterStepOf t = true ∨ e = .epochInc) →
    SoloInv c s0 t s) (fun _ => ⟨fun t' _ => hq t', rfl, by rw [hq t]; rfl⟩) ?_ hrun hsolo
  intro es s e s' _ ih hs hsolo
  exact solo_step (ih fun e he => hsolo e (List.mem_append_left _ he)) hs (hsolo e (by simp))

/-- outcome of an `enter` that runs alone from a quiescent state `s0`: it returns the lowest free
    slot, or `none` exactly when every slot is occupied; afterwards the state is quiescent again. -/
theorem solo_enter_result {s0 : State} {es : List Event} {tok : Option Nat}
    (hq : ∀ t', s0.pc t' = .idle)
    (hsolo : ∀ e ∈ es, e.isEnterStepOf t = true ∨ e = .epochInc)
    (hrun : exec c s0 (es ++ [.enterRet t tok]) = some s') :
    (∀ t', s'.pc t' = .idle) ∧
    match tok with
    | none => (∀ j, j < c.N → s0.running j = true) ∧ s'.running = s0.running ∧ s'.held = s0.held
    | some i => i < c.N ∧ s0.running i = false ∧ (∀ j, j < i → s0.running j = true) ∧
        s'.running = upd s0.running i true ∧ s'.held = upd s0.held t (i :: s0.held t) := by
  obtain ⟨s1, h1, hs⟩ := exec_snoc.mp hrun
  obtain ⟨ho, hh, hm⟩ := solo_run hq h1 hsolo
  refine ⟨fun t' => ?_, ?_⟩
  · by_cases ht : t' = t
    · subst ht; cases hs <;> exact upd_same _ _ _
    · exact (hs.others rfl ht).1 ▸ ho t' ht
  · cases hs with
    | enterRetOk _ i hpc =>
      rw [hpc] at hm
      exact ⟨hm.2.2.2, hm.2.2.1, hm.2.1, hm.1, by rw [← hh]⟩
    | enterRetFull _ i hpc hi =>
      obtain ⟨hr, hlow⟩ := soloPc_of_probing (.inl hpc) hm
      exact ⟨fun j hj => hlow j (by omega), hr, hh⟩

/-- left alone, the slot loop of `enter` runs to a return from any slot `i` (`d` slots to go) -/
theorem enter_returns_from (t : Nat) : ∀ (d : Nat) (s : State) (i : Nat), i + d = c.N →
    scanIdx (s.pc t) = some i →
    ∃ es tok s', (∀ e ∈ es, e.isEnterStepOf t = true) ∧
      exec c s (es ++ [.enterRet t tok]) = some s'
  | 0, s, i, hd, hpc =>
    ⟨[], none, _, by simp, exec_cons.mpr ⟨_, .enterRetFull s t i hpc (by omega), rfl⟩⟩
  | d + 1, s, i, hd, hpc => by
    have hi : i < c.N := by omega
    cases hv : s.running i with
    | true =>
      obtain ⟨es, tok, s', hes, hex⟩ := enter_returns_from t d
        { s with pc := upd s.pc t (.scan (i + 1)) } (i + 1) (by omega) (by simp [scanIdx])
      have hs := Step.ldRunning (c := c) s t i hpc hi
      simp only [hv, afterTest, if_true] at hs
      exact ⟨.ldRunning t i true :: es, tok, s', by simpa [Event.isEnterStepOf] using hes,
        exec_cons.mpr ⟨_, hs, hex⟩⟩
    | false =>
      have hacc : (exec c s ([.ldRunning t i false, .casRunning t i true, .ldEpoch t s.epoch,
          .stBegin t i s.epoch] ++ [.enterRet t (some i)])).isSome := by
        simp [exec, step?, hpc, hv, hi, afterTest]
      obtain ⟨s', hs'⟩ := Option.isSome_iff_exists.mp hacc
      exact ⟨_, _, s', by simp [Event.isEnterStepOf], hs'⟩

theorem solo_enter_exists (c : Cfg) (s0 : State) (t : Nat) (h0 : s0.pc t = .idle) :
    ∃ es tok s', (∀ e ∈ es, e.isEnterStepOf t = true) ∧
      exec c s0 (es ++ [.enterRet t tok]) = some s' :=
  enter_returns_from t c.N s0 0 (Nat.zero_add _) (by rw [h0]; rfl)

theorem quiescent_running_iff_held (h : Reach c s) (hq : ∀ t, s.pc t = .idle) (i : Nat) :
    s.running i = true ↔ ∃ t, i ∈ s.held t := by
  have hinv := inv_reach h
  have hcl : ∀ t, claims s t = s.held t := fun t => by simp [claims, hq t]
  exact ⟨fun hr => (hinv.owned i hr).imp fun t ht => hcl t ▸ ht,
    fun ⟨t, ht⟩ => (hinv.occ t i (held_sub_claims ht)).1⟩

theorem leave_frees_slot (h : Reach c s) (hq : ∀ t', s.pc t' = .idle) {i : Nat}
    (hi : i ∈ s.held t) :
    ∃ s2, exec c s [.leaveCall t i, .stBegin t i 0, .stRunning t i false, .leaveRet t] = some s2 ∧
      s2.running = upd s.running i false ∧ (∀ t', s2.pc t' = .idle) ∧ (∀ t', i ∉ s2.held t') := by
  have hex : exec c s [.leaveCall t i, .stBegin t i 0, .stRunning t i false, .leaveRet t] =
      some ⟨upd s.running i false, upd s.begin i 0, s.epoch,
        upd (upd (upd (upd s.pc t (.lvBegin i)) t (.lvRun i)) t (.lvRet i)) t .idle,
        upd s.held t ((s.held t).erase i)⟩ := by simp [exec, step?, hq t, hi]
  refine ⟨_, hex, rfl, fun t' => ?_, fun t' hm => ?_⟩
  · by_cases ht : t' = t
    · subst ht; exact upd_same _ _ _
    · simp only [upd_other _ _ _ _ ht]; exact hq t'
  · -- a held slot has its flag set, and the flag of `i` has just been cleared
    have := (held_lt_running (reach_exec h hex) hm).2
    simp at this

end Yak.Proto.Session
