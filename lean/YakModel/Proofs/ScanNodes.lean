import YakModel.Proofs.ScanSpec
/-!
# Read off the code of `scan`: the key of an INF end does not matter; the repaired scan records
every leaf it visits, so its node set is never empty
-/
namespace Yak.Tree
open Yak

theorem routeFrom_le (k : KT) : ∀ (ls : List Leaf), routeFrom k ls ≤ ls.length
  | [] => Nat.le_refl _
  | l :: ls => by
    have := routeFrom_le k ls
    unfold routeFrom
    split
    · simp only [List.length_cons]; omega
    · split
      · omega
      · simp only [List.length_cons]; omega

theorem route_lt {leaves : List Leaf} (h : leaves ≠ []) (k : KT) : route k leaves < leaves.length := by
  cases leaves with
  | nil => exact absurd rfl h
  | cons l ls =>
    have := routeFrom_le k ls
    simp only [route, List.length_cons]; omega

theorem linkArgs_inf (lk : Key) (le : EP) (rk rk' : Key) (ks : List UInt8) (F : Key) :
    linkArgs lk le rk .inf ks F = linkArgs lk le rk' .inf ks F := by
  rw [linkArgs_eq, linkArgs_eq]
  rfl

theorem scanEnts_rk {cfg t fuel L i lk le max r2l} (rk rk' : Key) :
    ∀ (ents : List Ent) (acc : Acc) (pushed : Bool),
      scanEnts cfg t fuel L i ents lk le rk .inf max r2l acc pushed =
        scanEnts cfg t fuel L i ents lk le rk' .inf max r2l acc pushed := by
  intro ents
  induction ents with
  | nil => intro acc pushed; rw [scanEnts_nil, scanEnts_nil]
  | cons e es ih =>
    intro acc pushed
    cases hval : e.val with
    | some v =>
      rw [scanEnts_val hval, scanEnts_val hval]
      have : ∀ fk, withinRight rk .inf fk = withinRight rk' .inf fk := fun _ => rfl
      simp only [this, ih]
    | none =>
      rw [scanEnts_link hval, scanEnts_link hval,
        linkArgs_inf lk le rk rk']
      cases linkArgs lk le rk' .inf e.kt.slice (L.fullKey e) with
      | skip => exact ih acc pushed
      | stop => rfl
      | go alk ale ark are =>
        cases fuel with
        | zero => rfl
        | succ f => simp only [ih]

theorem scanLeaves_rk {cfg t fuel L lk le max r2l} (rk rk' : Key) :
    ∀ (rest : List Leaf) (i : Nat) (acc : Acc),
      scanLeaves cfg t fuel L i rest lk le rk .inf max r2l acc =
        scanLeaves cfg t fuel L i rest lk le rk' .inf max r2l acc := by
  intro rest
  induction rest with
  | nil => intro i acc; rw [scanLeaves_nil, scanLeaves_nil]
  | cons leaf more ih =>
    intro i acc
    rw [scanLeaves_cons, scanLeaves_cons, scanEnts_rk rk rk']
    simp only [ih]

theorem scanLayer_rk {cfg t fuel p lk le max r2l acc} (rk rk' : Key) :
    scanLayer cfg t fuel p lk le rk .inf max r2l acc = scanLayer cfg t fuel p lk le rk' .inf max r2l acc := by
  cases hL : findLayer t p with
  | none => rw [scanLayer_none hL, scanLayer_none hL]
  | some L => rw [scanLayer_some hL, scanLayer_some hL, scanLeaves_rk]

/-- a left INF's key is dropped at entry (`fixD5`); a right INF's key is carried along unread -/
theorem scan_inf_ignores_key (t : Tree) (lk lk' rk rk' : Key) (le re : EP) (max : Nat) (r2l : Bool) (_h : Inv t) :
    (le = .inf → (scan cfgFixed t lk le rk re max r2l).tuples = (scan cfgFixed t lk' le rk re max r2l).tuples) ∧
    (re = .inf → (scan cfgFixed t lk le rk re max r2l).tuples = (scan cfgFixed t lk le rk' re max r2l).tuples) := by
  constructor
  · intro e; subst e
    have ha : scanArgsOk lk .inf rk re max r2l = scanArgsOk lk' .inf rk re max r2l := by
      unfold scanArgsOk checkEmptyRange; rfl
    unfold scan
    rw [ha]
    have e1 : (cfgFixed.fixD5 && EP.inf == EP.inf) = true := rfl
    simp only [e1, if_true]
  · intro e; subst e
    have ha : scanArgsOk lk le rk .inf max r2l = scanArgsOk lk le rk' .inf max r2l := by
      unfold scanArgsOk checkEmptyRange; rfl
    unfold scan
    rw [ha]
    simp only [scanLayer_rk rk rk']

theorem noted_nodes (L : Layer) (i : Nat) (pushed : Bool) (a : Acc) : a.nodes ⊆ (noted L i pushed a).nodes := by
  unfold noted
  split
  · exact List.Subset.refl _
  · exact List.subset_append_left _ _

theorem noted_mem {L i pushed a} (h : pushed = true → mkRef L i ∈ a.nodes) :
    mkRef L i ∈ (noted L i pushed a).nodes := by
  unfold noted
  split
  · exact h ‹_›
  · exact List.mem_append_right _ (List.mem_singleton.mpr rfl)

theorem recFix_fixed (L : Layer) (i : Nat) (pushed : Bool) (a : Acc) :
    recFix cfgFixed L i pushed a = noted L i pushed a := by
  cases pushed <;> rfl

theorem recFix_nodes (cfg : Cfg) (L : Layer) (i : Nat) (pushed : Bool) (a : Acc) :
    a.nodes ⊆ (recFix cfg L i pushed a).nodes := by
  unfold recFix
  split
  · exact List.subset_append_left _ _
  · exact List.Subset.refl _

theorem scanEnts_mono {cfg t fuel max r2l}
    (IH : ∀ f, f < fuel → ∀ (q : List UInt8) (lk : Key) (le : EP) (rk : Key) (re : EP) (acc : Acc),
      acc.nodes ⊆ (scanLayer cfg t f q lk le rk re max r2l acc).1.nodes)
    (L : Layer) (i : Nat) (lk : Key) (le : EP) (rk : Key) (re : EP) :
    ∀ (ents : List Ent) (acc : Acc) (pushed : Bool),
      acc.nodes ⊆ (scanEnts cfg t fuel L i ents lk le rk re max r2l acc pushed).1.nodes := by
  intro ents
  induction ents with
  | nil => intro acc pushed; rw [scanEnts_nil]; exact List.Subset.refl _
  | cons e es ih =>
    intro acc pushed
    cases hval : e.val with
    | some v =>
      rw [scanEnts_val hval]
      split
      · exact ih acc pushed
      · split
        · split
          · exact List.subset_append_left _ _
          · exact (List.subset_append_left _ [mkRef L i]).trans (ih ⟨_, _⟩ true)
        · exact noted_nodes L i pushed acc
    | none =>
      rw [scanEnts_link hval]
      cases linkArgs lk le rk re e.kt.slice (L.fullKey e) with
      | skip => exact ih acc pushed
      | stop => exact recFix_nodes cfg L i pushed acc
      | go alk ale ark are =>
        cases fuel with
        | zero => exact List.Subset.refl _
        | succ f =>
          have hsub := IH f (Nat.lt_succ_self f) (L.fullKey e) alk ale ark are acc
          simp only
          split
          · exact hsub.trans (recFix_nodes cfg L i pushed _)
          · exact hsub.trans (ih _ pushed)

theorem scanLeaves_mono {cfg t fuel max r2l}
    (IH : ∀ f, f < fuel → ∀ (q : List UInt8) (lk : Key) (le : EP) (rk : Key) (re : EP) (acc : Acc),
      acc.nodes ⊆ (scanLayer cfg t f q lk le rk re max r2l acc).1.nodes)
    (L : Layer) (lk : Key) (le : EP) (rk : Key) (re : EP) :
    ∀ (rest : List Leaf) (i : Nat) (acc : Acc),
      acc.nodes ⊆ (scanLeaves cfg t fuel L i rest lk le rk re max r2l acc).1.nodes := by
  intro rest
  induction rest with
  | nil => intro i acc; rw [scanLeaves_nil]; exact List.Subset.refl _
  | cons leaf more ih =>
    intro i acc
    have hE := scanEnts_mono IH L i lk le rk re (if r2l then leaf.ents.reverse else leaf.ents) acc false
    rw [scanLeaves_cons]
    split
    · exact hE
    · exact hE.trans ((noted_nodes L i _ _).trans (ih (i + 1) _))

theorem scanLayer_mono (cfg : Cfg) (t : Tree) (max : Nat) (r2l : Bool) :
    ∀ (fuel : Nat) (q : List UInt8) (lk : Key) (le : EP) (rk : Key) (re : EP) (acc : Acc),
      acc.nodes ⊆ (scanLayer cfg t fuel q lk le rk re max r2l acc).1.nodes := by
  intro fuel
  induction fuel using Nat.strongRecOn with
  | _ fuel ih =>
    intro q lk le rk re acc
    cases hL : findLayer t q with
    | none => rw [scanLayer_none hL]; exact List.Subset.refl _
    | some L => rw [scanLayer_some hL]; exact scanLeaves_mono ih L lk le rk re _ _ acc

def Recorded (L : Layer) (i : Nat) (r : Acc × Bool × Flow) : Prop :=
  (r.2.2 = .stop ∨ r.2.1 = true) → mkRef L i ∈ r.1.nodes

/-- `LCtx` only excludes the return on exhausted fuel, which records nothing -/
theorem scanEnts_records {t fuel p L} (c : LCtx t fuel p L)
    (max : Nat) (r2l : Bool) (i : Nat) (lk : Key) (le : EP) (rk : Key) (re : EP) :
    ∀ (ents : List Ent) (acc : Acc) (pushed : Bool), (∀ e ∈ ents, e ∈ layerEnts L.leaves) →
      (pushed = true → mkRef L i ∈ acc.nodes) →
      Recorded L i (scanEnts cfgFixed t fuel L i ents lk le rk re max r2l acc pushed) := by
  intro ents
  induction ents with
  | nil =>
    intro acc pushed _ hp
    rw [scanEnts_nil]
    rintro (h | h)
    · cases h
    · exact hp h
  | cons e es ih =>
    intro acc pushed hsub hp
    obtain ⟨he, hsub'⟩ := List.forall_mem_cons.mp hsub
    have here : mkRef L i ∈ acc.nodes ++ [mkRef L i] := List.mem_append_right _ (List.mem_singleton.mpr rfl)
    cases hval : e.val with
    | some v =>
      rw [scanEnts_val hval]
      split
      · exact ih acc pushed hsub' hp
      · split
        · split
          · exact fun _ => here
          · exact ih _ true hsub' (fun _ => here)
        · exact fun _ => noted_mem hp
    | none =>
      rw [scanEnts_link hval]
      cases linkArgs lk le rk re e.kt.slice (L.fullKey e) with
      | skip => exact ih acc pushed hsub' hp
      | stop => rw [recFix_fixed]; exact fun _ => noted_mem hp
      | go alk ale ark are =>
        obtain ⟨_, _, _, _, f, rfl, _⟩ := c.link he hval
        have hp' := fun h => scanLayer_mono cfgFixed t max r2l f
          (L.fullKey e) alk ale ark are acc (hp h)
        simp only
        split
        · rw [recFix_fixed]; exact fun _ => noted_mem hp'
        · exact ih _ pushed hsub' hp'

theorem scanLeaves_records {t fuel p L leaf} (c : LCtx t fuel p L)
    (max : Nat) (r2l : Bool) (lk : Key) (le : EP) (rk : Key) (re : EP) (i : Nat)
    (more : List Leaf) (hl : leaf ∈ L.leaves) (acc : Acc) :
    mkRef L i ∈ (scanLeaves cfgFixed t fuel L i (leaf :: more) lk le rk re max r2l acc).1.nodes := by
  have hents : ∀ e ∈ (if r2l then leaf.ents.reverse else leaf.ents), e ∈ layerEnts L.leaves := by
    intro e he
    refine mem_layerEnts.mpr ⟨leaf, hl, ?_⟩
    cases r2l with
    | true => exact List.mem_reverse.mp he
    | false => exact he
  have hE := scanEnts_records c max r2l i lk le rk re _ acc false hents (fun h => by cases h)
  rw [scanLeaves_cons]
  split
  · exact hE (Or.inl ‹_›)
  · exact scanLeaves_mono (fun f _ => scanLayer_mono cfgFixed t max r2l f) L lk le rk re more (i + 1) _
      (noted_mem (fun h => hE (Or.inr h)))

theorem scan_nodes_nonempty (t : Tree) (lk : Key) (le : EP) (rk : Key) (re : EP) (max : Nat) (r2l : Bool)
    (h : Inv t) (ha : scanArgsOk lk le rk re max r2l = true) :
    (scan cfgFixed t lk le rk re max r2l).nodes ≠ [] := by
  obtain ⟨_, hF, _⟩ := (inv_iff t).mp h
  obtain ⟨L, hL⟩ := findLayer_of_isSome hF.root
  rw [scan_unfold hL lk le rk re max r2l ha]
  split
  · exact List.cons_ne_nil _ _
  · have c : LCtx t (t.length + 1) [] L := ⟨hF, hL, by simp⟩
    simp only
    rw [scanLayer_some hL, List.drop_eq_getElem_cons (route_lt c.ne_nil _)]
    exact List.ne_nil_of_mem (scanLeaves_records c max r2l _ le rk re _ _ (List.getElem_mem _) _)

end Yak.Tree
