import YakModel.Proofs.ScanSpec
/-!
# Right-to-left scans (`max_size = 1`, right end INF) return the greatest key of the interval

The descent routes by the tuple `(0xFF×8, 8)`, which is below the link tuple `(0xFF×8, 9)`: if a
fence equals that maximal tuple the descent ends one leaf too far left. `Inv` alone does not
exclude such a fence (a split never produces it), hence the extra hypothesis `NoMaxFence`.
The file ends with `scan_spec`, the statement of C03 for both directions.
-/
namespace Yak.Tree
open Yak

def NoMaxFence (t : Tree) : Prop := ∀ L ∈ t, ∀ l ∈ L.leaves, l.fence ≠ some KT.max

def lastOpt {α : Type} (l : List α) : List α :=
  match l.getLast? with
  | some x => [x]
  | none => []

theorem lastOpt_eq_nil {α : Type} {l : List α} : lastOpt l = [] ↔ l = [] := by
  unfold lastOpt
  cases h : l.getLast? with
  | none => simp [List.getLast?_eq_none_iff.mp h]
  | some x =>
    simp only [List.cons_ne_self, false_iff]
    intro e; subst e; simp at h

theorem lastOpt_append_nil {α : Type} (a : List α) : lastOpt (a ++ []) = lastOpt a := by rw [List.append_nil]

theorem lastOpt_append_of_ne {α : Type} (a : List α) {b : List α} (h : b ≠ []) : lastOpt (a ++ b) = lastOpt b := by
  unfold lastOpt
  rw [List.getLast?_append]
  cases hb : b.getLast? with
  | none => exact absurd (List.getLast?_eq_none_iff.mp hb) h
  | some x => rfl

theorem lastOpt_singleton {α : Type} (x : α) : lastOpt [x] = [x] := rfl

theorem lastOpt_length_le {α : Type} (l : List α) : (lastOpt l).length ≤ 1 := by
  unfold lastOpt; split <;> simp

/-- every entry has a key below it: only the root layer can be empty -/
theorem entContent_ne_nil {t : Tree} (hE : FEmpt (lay t)) : ∀ (fuel : Nat) (p : List UInt8) (L : Layer) (e : Ent),
    LCtx t fuel p L → e ∈ layerEnts L.leaves → entContent t fuel p e ≠ [] := by
  intro fuel
  induction fuel using Nat.strongRecOn with
  | _ fuel ih =>
    intro p L e c he
    cases hval : e.val with
    | some v => rw [entContent_val hval]; simp
    | none =>
      obtain ⟨_, _, hs8, hdown, f, rfl, _⟩ := c.link he hval
      rw [entContent_link hval]
      obtain ⟨L', c'⟩ := LCtx.of_lay c.hF (fuel := f) hdown
        (by have := c.hA; simp only [List.length_append, hs8]; omega)
      rw [contentFrom_succ c'.hL]
      have hc' := c'.core
      cases hlv : L'.leaves with
      | nil => rw [hlv] at hc'; cases hc'.1
      | cons l0 rest =>
        cases hl0 : l0.ents with
        | nil =>
          have hemp := ((hE _ _ c'.lay l0 (by rw [hlv]; simp)).1 hl0).1
          rw [List.isEmpty_iff] at hemp
          have := congrArg List.length hemp
          simp [hs8] at this
        | cons e' es =>
          have he' : e' ∈ layerEnts L'.leaves := by rw [hlv, layerEnts_cons, hl0]; simp
          intro hnil
          rw [← hlv] at hnil
          exact ih f (by omega) _ L' e' c' he' (List.flatMap_eq_nil_iff.mp hnil e' he')

theorem lexLt_ff_false : ∀ (n : Nat) (b : List UInt8), b.length ≤ n → lexLt (List.replicate n 255) b = false
  | 0, b, h => by
    have : b = [] := List.eq_nil_of_length_eq_zero (by omega)
    subst this; rfl
  | n + 1, [], _ => by rw [lexLt_nil_right]
  | n + 1, y :: ys, h => by
    rw [List.replicate_succ, lexLt_cons]
    have h1 : ¬ (255 : UInt8) < y := by
      rw [UInt8.lt_iff_toNat_lt]
      have := y.toNat_lt
      simp only [UInt8.toNat_ofNat]
      omega
    rw [if_neg h1]
    by_cases h2 : (255 : UInt8) > y
    · rw [if_pos h2]
    · rw [if_neg h2]; exact lexLt_ff_false n ys (by simpa using h)

theorem lexLt_ff_bytes (x : KT) : lexLt (List.replicate 8 255) x.bytes = false :=
  lexLt_ff_false 8 _ (bytes_length_le x).2

theorem r2lKT_wf : (descentKT [] true).WF := by decide

theorem ltSpec_r2l_false {f : KT} (hf : f.WF) (hne : f ≠ KT.max) :
    KT.ltSpec ⟨List.replicate 8 255, 8⟩ f = false := by
  unfold KT.ltSpec
  have hb : (⟨List.replicate 8 255, 8⟩ : KT).bytes = List.replicate 8 255 := by decide
  rw [hb, lexLt_ff_bytes]
  simp only [Bool.false_or, Bool.and_eq_false_iff, beq_eq_false_iff_ne, ne_eq, decide_eq_false_iff_not]
  by_cases h9 : f.len = 9
  · left
    intro e
    apply hne
    have hs : f.bytes = f.slice := bytes_of_link hf h9
    rw [hs] at e
    cases f with
    | mk s l =>
      simp only at e h9
      rw [← e, h9]; rfl
  · right
    have := hf.2.1
    omega

theorem routeFrom_all (k : KT) : ∀ (ls : List Leaf), (∀ l ∈ ls, ∃ f, l.fence = some f ∧ routeLeft k f = false) →
    routeFrom k ls = ls.length
  | [], _ => rfl
  | l :: ls, h => by
    obtain ⟨f, hf, hr⟩ := h l (by simp)
    simp only [routeFrom, hf, hr, Bool.false_eq_true, if_false, List.length_cons]
    rw [routeFrom_all k ls (fun x hx => h x (by simp [hx]))]

theorem route_r2l {leaves : List Leaf} (hc : LayerCore leaves) (hm : ∀ l ∈ leaves, l.fence ≠ some KT.max)
    (lk : Key) : route (descentKT lk true) leaves = leaves.length - 1 := by
  cases leaves with
  | nil => rfl
  | cons c ls =>
    simp only [route, List.length_cons, Nat.add_sub_cancel]
    apply routeFrom_all
    intro l hl
    obtain ⟨f, hf, hfw, _⟩ := hc.1.tail_fence l (by simpa using hl)
    refine ⟨f, hf, ?_⟩
    have hk : (descentKT lk true).WF := r2lKT_wf
    rw [routeLeft_eq _ _ hk hfw]
    apply ltSpec_r2l_false hfw
    intro e
    exact hm l (by simp [hl]) (by rw [hf, e])

theorem lim_one_reverse {α β : Type} (f : α → List β) (l : List α) :
    lim 1 (l.reverse.flatMap fun a => lastOpt (f a)) = lastOpt (l.flatMap f) := by
  induction l with
  | nil => rfl
  | cons a l ih =>
    rw [List.reverse_cons, List.flatMap_append, List.flatMap_singleton, List.flatMap_cons]
    by_cases hnil : l.flatMap f = []
    · rw [hnil] at ih
      change lim 1 _ = [] at ih
      unfold lim at ih
      rw [if_neg (by decide), List.take_eq_nil_iff] at ih
      rw [hnil, ih.resolve_left (by decide), List.nil_append, List.append_nil]
      exact lim_of_length_le (lastOpt_length_le _)
    · rw [lastOpt_append_of_ne _ hnil, ← ih]
      apply lim_append_of_full
      cases hA : l.reverse.flatMap fun a => lastOpt (f a) with
      | nil => rw [hA] at ih; exact absurd (lastOpt_eq_nil.mp ih.symm) hnil
      | cons _ _ => rfl

def SubR (cfg : Cfg) (t : Tree) (fuel : Nat) (p : List UInt8) : Prop :=
  ∀ f, fuel = f + 1 → ∀ (q : List UInt8) (alk : Key) (ale : EP) (ark : Key) (acc : Acc),
    (lay t q).isSome → q.length = p.length + 8 → acc.tuples = [] →
    (scanLayer cfg t f q alk ale ark .inf 1 true acc).1.tuples =
      lastOpt ((contentFrom t (f + 1) q).filter (Jf q alk ale ark .inf))

theorem scanEnts_r2l {cfg t fuel p L} (c : LCtx t fuel p L)
    (IH : SubR cfg t fuel p) (i : Nat) (lk : Key) (le : EP) (rk : Key) (ents : List Ent) (acc : Acc)
    (pushed : Bool) (hsub : ∀ e ∈ ents, e ∈ layerEnts L.leaves) (hacc : acc.tuples = []) :
    (scanEnts cfg t fuel L i ents.reverse lk le rk .inf 1 true acc pushed).1.tuples =
      lastOpt (ents.flatMap (Xe t fuel p lk le rk .inf)) := by
  have hpre : full 1 acc.tuples.length = false := by rw [hacc]; rfl
  have hE := scanEnts_contrib c (max := 1) (r2l := true) i lk le rk .inf
    (X := fun e => lastOpt (Xe t fuel p lk le rk .inf e))
    (fun e v hv => by
      show lastOpt (Xe t fuel p lk le rk .inf e) = _
      rw [Xe_val hv]; split <;> rfl)
    (fun e h => by
      show lastOpt (Xe t fuel p lk le rk .inf e) = _
      rw [h]; rfl)
    (by
      intro f hf e he hval alk ale ark are hla acc' hpre'
      subst hf
      obtain ⟨_, _, hs8, hdown, _⟩ := c.link he hval
      have hacc' : acc'.tuples = [] := List.eq_nil_of_length_eq_zero (by simpa [full] using hpre')
      obtain rfl := (linkArgs_go hs8 hla).2.1 rfl
      rw [IH f rfl _ alk ale ark acc' hdown (by simp [hs8]) hacc', c.Xe_go he hval hla, hacc', List.nil_append]
      exact (lim_of_length_le (lastOpt_length_le _)).symm)
    ents.reverse [] acc pushed (by simpa using hsub) (fun h => absurd rfl h) hpre
  rw [hacc] at hE
  rw [← lim_one_reverse]
  cases hfl : (scanEnts cfg t fuel L i ents.reverse lk le rk .inf 1 true acc pushed).2.2 with
  | stop => rw [hE.2 hfl, List.append_nil, List.nil_append]
  | cont =>
    obtain ⟨h1, h2⟩ := hE.1 hfl
    rw [List.nil_append] at h1
    rw [← h1]
    exact (lim_of_not_full h2).symm

/-- the last leaf decides: if it contributes nothing, no earlier leaf does -/
theorem last_leaf_covers {t fuel p L} (c : LCtx t fuel p L)
    (hE : FEmpt (lay t)) (lk : Key) (le : EP) (rk : Key) {init : List Leaf} {last : Leaf}
    (hsplit : L.leaves = init ++ [last]) :
    lastOpt ((layerEnts L.leaves).flatMap (Xe t fuel p lk le rk .inf)) =
      lastOpt (last.ents.flatMap (Xe t fuel p lk le rk .inf)) := by
  have hlast : layerEnts [last] = last.ents := by simp [layerEnts]
  rw [hsplit, layerEnts_append, List.flatMap_append, hlast]
  by_cases hnil : last.ents.flatMap (Xe t fuel p lk le rk .inf) = []
  case neg => exact lastOpt_append_of_ne _ hnil
  rw [hnil, List.append_nil]
  refine congrArg lastOpt (List.flatMap_eq_nil_iff.mpr fun e' he' => Xe_nil_of_left fun kv hkv => ?_)
  have he'in : e' ∈ layerEnts L.leaves := by
    rw [hsplit, layerEnts_append]; exact List.mem_append_left _ he'
  obtain ⟨i0, he'i0, -⟩ := mem_layerEnts.mp he'
  -- the last leaf is not empty: its first entry has a key, which is left of the interval
  cases hl : last.ents with
  | nil =>
    have := ((hE _ _ c.lay last (by rw [hsplit]; simp)).1 hl).2
    rw [hsplit] at this
    cases init with
    | nil => cases he'i0
    | cons _ _ => simp at this
  | cons e1 es =>
    have he1 : e1 ∈ layerEnts L.leaves := by
      rw [hsplit, layerEnts_append, hlast, hl]; simp
    cases hc1 : entContent t fuel p e1 with
    | nil => exact absurd hc1 (entContent_ne_nil hE fuel p L e1 c he1)
    | cons kv1 rest1 =>
      have hkv1 : kv1 ∈ entContent t fuel p e1 := by rw [hc1]; simp
      have hL1 : inLeft lk le (kv1.1.drop p.length) = false := by
        rw [hl, List.flatMap_cons] at hnil
        simpa [Jf, inRight] using List.filter_eq_nil_iff.mp (List.append_eq_nil_iff.mp hnil).1 kv1 hkv1
      have hsorted := sorted_contentFrom c.hF (fuel + 1) p (by rw [c.lay]; rfl) (by have := c.hA; omega)
      rw [contentFrom_succ c.hL, List.pairwise_flatMap, hsplit, layerEnts_append, List.pairwise_append] at hsorted
      have hlt : lexLt kv.1 kv1.1 = true :=
        hsorted.2.2.2 e' he' e1 (by rw [hlast, hl]; simp) kv hkv kv1 hkv1
      obtain ⟨r', h1, hd, _⟩ := c.keys he'in hkv
      obtain ⟨r1, h11, hd1, _⟩ := c.keys he1 hkv1
      rw [h1, h11, lexLt_append_left] at hlt
      rw [hd1] at hL1
      rw [hd]
      exact inLeft_mono hlt hL1

theorem scanLayer_r2l {cfg : Cfg} {t : Tree} (hF : FCore (lay t)) (hE : FEmpt (lay t))
    (hm : ∀ q ls, lay t q = some ls → ∀ l ∈ ls, l.fence ≠ some KT.max) :
    ∀ (fuel : Nat) (p : List UInt8) (lk : Key) (le : EP) (rk : Key) (acc : Acc),
      (lay t p).isSome → t.length ≤ fuel + p.length / 8 → acc.tuples = [] →
      (scanLayer cfg t fuel p lk le rk .inf 1 true acc).1.tuples =
        lastOpt ((contentFrom t (fuel + 1) p).filter (Jf p lk le rk .inf)) := by
  intro fuel
  induction fuel using Nat.strongRecOn with
  | _ fuel ih =>
    intro p lk le rk acc hp hA hacc
    have IH : SubR cfg t fuel p := fun f hf q alk ale ark acc' hq hlen hacc' =>
      ih f (by omega) q alk ale ark acc' hq (by omega) hacc'
    obtain ⟨L, c⟩ := LCtx.of_lay hF hp hA
    have hne := c.ne_nil
    have hsplit := (List.dropLast_concat_getLast hne).symm
    have hsub : ∀ e ∈ (L.leaves.getLast hne).ents, e ∈ layerEnts L.leaves :=
      fun e he => mem_layerEnts.mpr ⟨_, List.getLast_mem hne, he⟩
    rw [scanLayer_some c.hL, contentFrom_succ c.hL, List.filter_flatMap, route_r2l c.core (hm p _ c.lay)]
    show _ = lastOpt ((layerEnts L.leaves).flatMap (Xe t fuel p lk le rk .inf))
    rw [last_leaf_covers c hE lk le rk hsplit,
      ← scanEnts_r2l c IH (L.leaves.length - 1) lk le rk _ acc false hsub hacc]
    have hdrop : L.leaves.drop (L.leaves.length - 1) = [L.leaves.getLast hne] := by
      conv => lhs; rw [hsplit]
      simp
    rw [hdrop, scanLeaves_cons]
    simp only [if_true]
    split
    · rfl
    · rw [scanLeaves_nil]
      exact noted_tuples L _ _ _

theorem scan_spec_r2l (t : Tree) (lk : Key) (le : EP) (rk : Key) (re : EP) (max : Nat)
    (h : Inv t) (ha : scanArgsOk lk le rk re max true = true) (hm : NoMaxFence t) :
    (scan cfgFixed t lk le rk re max true).tuples = scanSpec t lk le rk re max true := by
  obtain ⟨_, hF, hE⟩ := (inv_iff t).mp h
  have hargs : re = .inf ∧ max = 1 := by
    unfold scanArgsOk at ha
    simp only [Bool.true_and, Bool.and_eq_true, Bool.not_eq_true', Bool.or_eq_false_iff, bne_eq_false_iff_eq] at ha
    exact ⟨by simpa using ha.2.1, by simpa using ha.2.2⟩
  obtain ⟨rfl, rfl⟩ := hargs
  have hm' : ∀ q ls, lay t q = some ls → ∀ l ∈ ls, l.fence ≠ some KT.max :=
    fun q ls hq l hl => hm _ (findLayer_some (findLayer_of_lay hq)).2 l hl
  rw [scan_tuples_of_root t lk le rk .inf 1 true h ha (R := lastOpt) rfl
    (scanLayer_r2l hF hE hm' (t.length + 1) [] _ le rk ⟨[], []⟩ hF.root (by simp) rfl)]
  unfold scanSpec lastOpt
  simp only [if_true]
  cases ((content t).filter fun kv => inInterval lk le rk .inf kv.1).getLast? <;> rfl

/-- C03, main statement (see the header for `NoMaxFence`). -/
theorem scan_spec (t : Tree) (lk : Key) (le : EP) (rk : Key) (re : EP) (max : Nat) (r2l : Bool)
    (h : Inv t) (ha : scanArgsOk lk le rk re max r2l = true) (hm : r2l = true → NoMaxFence t) :
    (scan cfgFixed t lk le rk re max r2l).status = Status.OK ∧
    (scan cfgFixed t lk le rk re max r2l).tuples = scanSpec t lk le rk re max r2l := by
  refine ⟨scan_status_ok t lk le rk re max r2l h ha, ?_⟩
  cases r2l with
  | false => exact scan_spec_fwd t lk le rk re max h ha
  | true => exact scan_spec_r2l t lk le rk re max h ha (hm rfl)

end Yak.Tree
