import YakModel.Proofs.ScanR2L
/-!
# `NoMaxFence` is an invariant of the storage operations

Fences are created only by a split (the first of the moved entries, which is followed by at
least one larger entry and therefore is not the maximal tuple); `remove` only drops fences or
moves the fence of an unlinked leaf to its right neighbour.

`remove` is shown for any fence `f` (`FenceIn`: none appears that was not there), which the
cascade over the layers needs as induction hypothesis; `put` creates fences, so there only
`KT.max` can be excluded.
-/
namespace Yak.Tree
open Yak

def FenceIn (t : Tree) (f : KT) : Prop := ∃ L ∈ t, ∃ l ∈ L.leaves, l.fence = some f

theorem noMaxFence_iff (t : Tree) : NoMaxFence t ↔ ¬ FenceIn t KT.max := by
  unfold NoMaxFence FenceIn
  constructor
  · rintro h ⟨L, hL, l, hl, hf⟩; exact h L hL l hl hf
  · intro h L hL l hl hf; exact h ⟨L, hL, l, hl, hf⟩

theorem mem_setLayer {t : Tree} {L M : Layer} (h : M ∈ setLayer t L) : M = L ∨ M ∈ t := by
  unfold setLayer at h
  split at h
  · obtain ⟨M0, hM0, rfl⟩ := List.mem_map.mp h
    split
    · exact Or.inl rfl
    · exact Or.inr hM0
  · rcases List.mem_append.mp h with h | h
    · exact Or.inr h
    · exact Or.inl (List.mem_singleton.mp h)

theorem fenceIn_setLayer {t : Tree} {L L' : Layer} (hL : L ∈ t) {f : KT}
    (hsub : ∀ l' ∈ L'.leaves, l'.fence = some f → ∃ l ∈ L.leaves, l.fence = some f)
    (h : FenceIn (setLayer t L') f) : FenceIn t f := by
  obtain ⟨M, hM, l, hl, hf⟩ := h
  rcases mem_setLayer hM with rfl | hM
  · obtain ⟨l0, hl0, hf0⟩ := hsub l hl hf
    exact ⟨L, hL, l0, hl0, hf0⟩
  · exact ⟨M, hM, l, hl, hf⟩

theorem fenceIn_eraseLayer {t : Tree} {p : List UInt8} {f : KT} (h : FenceIn (eraseLayer t p) f) :
    FenceIn t f := by
  obtain ⟨M, hM, l, hl, hf⟩ := h
  exact ⟨M, (List.mem_filter.mp hM).1, l, hl, hf⟩

theorem getD_fence {ls : List Leaf} {i : Nat} {f : KT} (h : (ls.getD i emptyLeaf).fence = some f) :
    ∃ l ∈ ls, l.fence = some f := by
  rw [List.getD_eq_getElem?_getD] at h
  cases hg : ls[i]? with
  | none => rw [hg] at h; cases h
  | some l => rw [hg] at h; exact ⟨l, List.mem_of_getElem? hg, h⟩

theorem set_fence {ls : List Leaf} {j : Nat} {x : Leaf} {f : KT}
    (hx : x.fence = some f → ∃ l ∈ ls, l.fence = some f) :
    ∀ l' ∈ ls.set j x, l'.fence = some f → ∃ l ∈ ls, l.fence = some f := by
  intro l' hl' hf
  rcases List.mem_or_eq_of_mem_set hl' with h | h
  · exact ⟨l', h, hf⟩
  · subst h; exact hx hf

theorem unlinkLeaves_fence {ls : List Leaf} {i : Nat} {right : Bool} {f : KT} :
    ∀ l' ∈ unlinkLeaves ls i right, l'.fence = some f → ∃ l ∈ ls, l.fence = some f := by
  intro l' hl' hf
  have hl'' := List.mem_of_mem_eraseIdx hl'
  cases right with
  | false => exact ⟨l', by simpa using hl'', hf⟩
  | true =>
    simp only [if_true] at hl''
    -- at most one fence replaced by the unlinked leaf's fence
    cases hnx : ls[i + 1]? with
    | none => rw [hnx] at hl''; exact ⟨l', hl'', hf⟩
    | some nx =>
      rw [hnx] at hl''
      exact set_fence (x := { nx with fence := (ls.getD i emptyLeaf).fence }) (fun hx => getD_fence hx) l' hl'' hf

theorem handleEmpty_fences (f : KT) : ∀ (n : Nat) (t : Tree) (p : List UInt8) (i : Nat) (dirs : List Bool)
    (used : Nat), FenceIn (handleEmpty t p i dirs used n).1 f → FenceIn t f := by
  intro n
  induction n with
  | zero => intro t p i dirs used h; exact h
  | succ n ih =>
    intro t p i dirs used h
    cases hL : findLayer t p with
    | none => rw [handleEmpty, hL] at h; exact h
    | some L =>
      have hLt : L ∈ t := (findLayer_some hL).2
      by_cases hlen : L.leaves.length ≤ 1
      · rw [handleEmpty, hL] at h
        simp only [if_pos hlen] at h
        split at h
        · refine fenceIn_setLayer hLt ?_ h
          intro l' hl' hf
          simp only [List.mem_singleton] at hl'
          subst hl'
          exact getD_fence hf
        · cases hU : findLayer (eraseLayer t p) (p.take (p.length - 8)) with
          | none => rw [hU] at h; exact fenceIn_eraseLayer h
          | some U =>
            rw [hU] at h
            simp only at h
            have hUt : U ∈ eraseLayer t p := (findLayer_some hU).2
            have step : ∀ (j : Nat) (x : Leaf),
                FenceIn (setLayer (eraseLayer t p) { U with leaves := U.leaves.set j x }) f →
                (x.fence = some f → ∃ l ∈ U.leaves, l.fence = some f) → FenceIn t f := by
              intro j x h' hx
              apply fenceIn_eraseLayer (p := p)
              exact fenceIn_setLayer hUt (set_fence hx) h'
            split at h
            · exact step _ _ (ih _ _ _ _ _ h) (fun hx => getD_fence hx)
            · exact step _ _ h (fun hx => getD_fence hx)
      · rw [handleEmpty_unlink hL hlen] at h
        exact fenceIn_setLayer hLt unlinkLeaves_fence h

theorem removeAt_fences (f : KT) (t : Tree) (dirs : List Bool) : ∀ (rest : Key) (p : List UInt8),
    FenceIn (removeAt t p rest dirs).tree f → FenceIn t f := by
  intro rest
  induction hn : rest.length using Nat.strongRecOn generalizing rest with
  | _ n ih =>
    intro p h
    rw [removeAt] at h
    cases hL : findLayer t p with
    | none => rw [hL] at h; exact h
    | some L =>
      have hLt : L ∈ t := (findLayer_some hL).2
      rw [hL] at h
      simp only at h
      cases hlk : leafLookup (KT.ofKey rest)
          (leafKeys (L.leaves.getD (route (KT.ofKey rest) L.leaves) emptyLeaf)) with
      | none => rw [hlk] at h; exact h
      | some r =>
        rw [hlk] at h
        simp only at h
        by_cases hl : rest.length > 8
        · rw [dif_pos hl] at h
          exact ih (rest.drop 8).length (by simp only [List.length_drop]; omega) (rest.drop 8) rfl _ h
        · rw [dif_neg hl] at h
          have step : ∀ (j : Nat) (x : Leaf), FenceIn (setLayer t { L with leaves := L.leaves.set j x }) f →
              (x.fence = some f → ∃ l ∈ L.leaves, l.fence = some f) → FenceIn t f :=
            fun j x h' hx => fenceIn_setLayer hLt (set_fence hx) h'
          split at h
          · exact step _ _ (handleEmpty_fences f _ _ _ _ _ _ h) (fun hx => getD_fence hx)
          · exact step _ _ h (fun hx => getD_fence hx)

theorem noMaxFence_remove (t : Tree) (k : Key) (dirs : List Bool) (h : NoMaxFence t) :
    NoMaxFence (remove t k dirs).tree := by
  rw [noMaxFence_iff] at h ⊢
  exact fun h' => h (removeAt_fences KT.max t dirs k [] h')

theorem ltSpec_max_false {x : KT} (hw : x.WF) : KT.ltSpec KT.max x = false := by
  unfold KT.ltSpec
  have hb : KT.max.bytes = List.replicate 8 255 := by decide
  have hl : KT.max.len = 9 := rfl
  rw [hb, hl, lexLt_ff_bytes]
  have h9 : ¬ 9 < x.len := by have := hw.2.1; omega
  simp [h9]

theorem freshLayers_fence (v : Val) : ∀ (r : Key) (q : List UInt8), ∀ M ∈ freshLayers q r v, ∀ l ∈ M.leaves,
    l.fence = none := by
  intro r
  induction hn : r.length using Nat.strongRecOn generalizing r with
  | _ n ih =>
    intro q M hM l hl
    by_cases hlong : r.length > 8
    · rw [freshLayers_long v hlong] at hM
      rcases List.mem_cons.mp hM with rfl | hM
      · simp only [List.mem_singleton] at hl
        subst hl; rfl
      · exact ih (r.drop 8).length (by simp only [List.length_drop]; omega) (r.drop 8) rfl _ M hM l hl
    · rw [freshLayers_short v hlong] at hM
      simp only [List.mem_singleton] at hM
      subst hM
      simp only [List.mem_singleton] at hl
      subst hl; rfl

theorem insLeaves_fence {leaves : List Leaf} (hc : LayerCore leaves) {k : KT} (hk : k.WF) (e : Ent)
    (h : ∀ l ∈ leaves, l.fence ≠ some KT.max) : ∀ l ∈ insLeaves leaves k e, l.fence ≠ some KT.max := by
  obtain ⟨pre, leaf, post, hr⟩ := route_decomp hc hk
  have hok : LeafOK leaf := hc.2.2 leaf (by rw [hr.eq]; simp)
  rw [hr.eq] at h
  by_cases hlt : leaf.ents.length < 15
  · rw [insLeaves_lt e hr hlt]
    simp only [List.forall_mem_append, List.forall_mem_cons] at h ⊢
    exact h
  · rw [insLeaves_ge e hr hlt]
    simp only [List.forall_mem_append, List.forall_mem_cons] at h ⊢
    refine ⟨h.1, h.2.1, ?_, h.2.2⟩
    -- the new right node: its fence is the ninth entry, which has a larger successor
    simp only [ne_eq, Option.some.injEq]
    rw [List.drop_eq_getElem_cons (by omega : 8 < leaf.ents.length), List.headD_cons]
    intro e0
    have hab := List.pairwise_iff_getElem.mp hok.2.2.1 8 9 (by omega) (by omega) (by omega)
    rw [e0, ltSpec_max_false (hok.2.1 _ (List.getElem_mem _)).1] at hab
    cases hab

theorem noMaxFence_setLayer {t : Tree} {L' : Layer} (h : NoMaxFence t)
    (h' : ∀ l ∈ L'.leaves, l.fence ≠ some KT.max) : NoMaxFence (setLayer t L') := by
  intro M hM l hl
  rcases mem_setLayer hM with rfl | hM
  · exact h' l hl
  · exact h M hM l hl

theorem putAt_noMaxFence {t : Tree} (hF : FCore (lay t)) (h : NoMaxFence t) (v : Val) (u : Bool) :
    ∀ (rest : Key) (p : List UInt8), (lay t p).isSome → NoMaxFence (putAt t p rest v u).tree := by
  refine descent hF ?_ ?_ ?_
  · intro p L rest hL hg
    rw [putAt_of_miss hL hg, insertInto_eq]
    dsimp only
    intro M hM l hl
    rcases List.mem_append.mp hM with hM | hM
    · exact noMaxFence_setLayer h (insLeaves_fence (hF.core _ _ (lay_of_findLayer hL)) (KT.ofKey_wf rest) _
        (h L (findLayer_some hL).2)) M hM l hl
    · unfold subOf at hM
      split at hM
      · rw [freshLayers_fence v _ _ M hM l hl]; simp
      · cases hM
  · intro p L rest e hL hg hl
    obtain ⟨pre, leaf, post, a, b, hr, hs, _, hlk⟩ :=
      hit_split (hF.core _ _ (lay_of_findLayer hL)) (KT.ofKey_wf rest) hg
    rw [putAt_of_last hL hl hr hs hlk]
    split
    · exact h
    · -- the value of one entry is replaced: the fences are those of `L`
      apply noMaxFence_setLayer h
      have hL' := h L (findLayer_some hL).2
      rw [hr.eq] at hL'
      simp only [List.forall_mem_append, List.forall_mem_cons] at hL' ⊢
      exact hL'
  · intro p L rest e hL hg hl ih
    rw [putAt_of_link hL hg hl]
    exact ih

theorem noMaxFence_put (t : Tree) (k : Key) (v : Val) (u : Bool) (hi : Inv t) (h : NoMaxFence t) :
    NoMaxFence (put t k v u).tree := by
  obtain ⟨_, hF, _⟩ := (inv_iff t).mp hi
  exact putAt_noMaxFence hF h v u k [] hF.root

theorem noMaxFence_empty : NoMaxFence Tree.empty := by
  intro L hL l hl
  simp only [Tree.empty, List.mem_singleton] at hL
  subst hL
  simp only [List.mem_singleton] at hl
  subst hl
  simp [emptyLeaf]

end Yak.Tree
