import YakModel.Proto.NodeSet
/-!
# `NodeSet`: the concrete run behind the non-vacuity witness of C04 (capacity 3)

`stable_keys_witness` needs its states as terms, and a `State` has function-valued fields: the last
state of each run has `w` and `sc` written as the run's updates in order, which is what `step?`
builds, so `exec` over the run evaluates to it. States are numbered by the events done (9, 10, 28).
-/
namespace Yak.Proto.NodeSet.Witness
open Yak.Proto.NodeSet

def upds {α : Type} (f : Nat → α) (us : List (Nat × α)) : Nat → α :=
  us.foldl (fun g u => upd g u.1 u.2) f

/-- writer 0 inserts 1, 3, 5 into the one leaf -/
def prefixRun : List Event :=
  [.wLock 0 1 0, .wInsert 0, .wUnlock 0, .wLock 0 3 0, .wInsert 0, .wUnlock 0,
   .wLock 0 5 0, .wInsert 0, .wUnlock 0]

def pre9 : State :=
  { chain := [⟨0, 0, [1, 3, 5], 3, 0, false, false⟩], nextId := 1, completed := [5, 3, 1], sc := init.sc
    w := upds init.w [(0, .held 1 0), (0, .published 1 0), (0, .idle), (0, .held 3 0),
      (0, .published 3 0), (0, .idle), (0, .held 5 0), (0, .published 5 0), (0, .idle)] }

theorem pre_exec : exec ⟨3⟩ init prefixRun = some pre9 := rfl

def ovt10 : State := { pre9 with sc := upd pre9.sc 0 (.want 1 6) }

theorem ovt10_step : step? ⟨3⟩ pre9 (.sStart 0 1 6) = some ovt10 := rfl

/-- a scan of [1, 6] reads leaf 0; before it validates, an insert of 4 splits the leaf; the
    validation sees the split counter, the scan restarts from find_border, reads leaf 0 again,
    moves to the new leaf 1; after leaf 1 is validated an insert of 6 goes into it. -/
def overtakenRun : List Event :=
  [.sEnter 0 0, .sLoadVer 0, .sSnapshot 0,
   .wLock 1 4 0, .wSplit 1, .wUnlockL 1, .wUnlockR 1,
   .sValidate 0,
   .sEnter 0 0, .sLoadVer 0, .sSnapshot 0, .sValidate 0,
   .sLoadVer 0, .sSnapshot 0, .sValidate 0,
   .wLock 1 6 1, .wInsert 1, .wUnlock 1]

def ovt28 : State :=
  { chain := [⟨0, 0, [1, 3, 4], 4, 1, false, false⟩, ⟨1, 5, [5, 6], 5, 1, false, false⟩]
    nextId := 2, completed := [6, 4, 5, 3, 1]
    w := upds ovt10.w [(1, .held 4 0), (1, .splitDone 4 0 1), (1, .splitHalf 4 1), (1, .idle),
      (1, .held 6 1), (1, .published 6 1), (1, .idle)]
    sc := upds ovt10.sc [(0, .run 1 6 [] [] 0 .fresh), (0, .run 1 6 [] [] 0 (.loaded 3 0)),
      (0, .run 1 6 [] [] 0 (.snapped 3 0 [1, 3, 5])), (0, .want 1 6),
      (0, .run 1 6 [] [] 0 .fresh), (0, .run 1 6 [] [] 0 (.loaded 4 1)),
      (0, .run 1 6 [] [] 0 (.snapped 4 1 [1, 3, 4])),
      (0, .run 1 6 [1, 3, 4] [(0, 4, 1)] 1 .fresh), (0, .run 1 6 [1, 3, 4] [(0, 4, 1)] 1 (.loaded 4 1)),
      (0, .run 1 6 [1, 3, 4] [(0, 4, 1)] 1 (.snapped 4 1 [5])),
      (0, .fin 1 6 [1, 3, 4, 5] [(0, 4, 1), (1, 4, 1)])] }

theorem ovt_exec : exec ⟨3⟩ ovt10 overtakenRun = some ovt28 := rfl

end Yak.Proto.NodeSet.Witness
