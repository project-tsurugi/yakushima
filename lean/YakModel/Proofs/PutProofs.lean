import YakModel.Proofs.WalkLemmas
/-!
# `put`: the descent, point updates of one layer, what `put` establishes and what it reports
-/
namespace Yak.Tree
open Yak

/-- Seen from layer `p`, `F'` answers like `F` except that the key `rest` is now bound to `o`;
    outside the region below `p` the two agree. -/
structure WalkUpd (F F' : List UInt8 → Option (List Leaf)) (p : List UInt8) (rest : Key)
    (o : Option Val) : Prop where
  frame : ∀ q, ¬ p <+: q → F' q = F q
  walk : ∀ rest', walkM (lookF F') p rest' = if rest' = rest then o else walkM (lookF F) p rest'

theorem WalkUpd.lift {F F' : List UInt8 → Option (List Leaf)} {p : List UInt8} {rest : Key}
    {o : Option Val} {e : Ent} (hlook : lookF F p (KT.ofKey rest) = some e) (hl : rest.length > 8)
    (h : WalkUpd F F' (p ++ rest.take 8) (rest.drop 8) o) : WalkUpd F F' p rest o := by
  have hs8 := take8_len hl
  refine ⟨fun q hq => h.frame q (fun h' => hq ((List.prefix_append _ _).trans h')), ?_⟩
  intro rest'
  have hlk : ∀ k, lookF F' p k = lookF F p k :=
    lookF_congr_chain (h.frame p (not_prefix_append_self _ _ (ne_nil_of_len8 hs8)))
  cases hm : lookF F p (KT.ofKey rest') with
  | none =>
    have hne : rest' ≠ rest := by intro e'; subst e'; rw [hlook] at hm; cases hm
    rw [if_neg hne, walkM_none hm, walkM_none ((hlk _).trans hm)]
  | some e' =>
    by_cases hl' : rest'.length > 8
    · rw [walkM_long hm hl', walkM_long ((hlk _).trans hm) hl']
      by_cases ht : rest'.take 8 = rest.take 8
      · rw [ht, h.walk]
        simp only [eq_iff_drop8 ht]
      · have hne : rest' ≠ rest := by intro e'; subst e'; exact ht rfl
        rw [if_neg hne]
        apply walkM_congr
        intro q k hq _
        exact lookF_congr_chain (h.frame q (not_prefix_of_slice_ne hs8 (take8_len hl') ht hq)) k
    · have hne : rest' ≠ rest := by intro e'; subst e'; exact hl' hl
      rw [if_neg hne, walkM_short hm hl', walkM_short ((hlk _).trans hm) hl']

/-- the entry for the short key `rest` becomes `oe`: overwritten, erased, or new -/
theorem point_update {t : Tree} (hnd : (t.map (·.pfx)).Nodup) (hF : FCore (lay t)) {p : List UInt8}
    {ls ls' : List Leaf} (hlay : lay t p = some ls) (hc' : LayerCore ls') {rest : Key}
    (hshort : ¬ rest.length > 8) {oe : Option Ent}
    (hoe : ∀ e ∈ oe, e.kt = KT.ofKey rest ∧ (p ≠ [] → rest ≠ []))
    (hmem : ∀ x, x ∈ layerEnts ls' ↔ oe = some x ∨ (x ∈ layerEnts ls ∧ x.kt ≠ KT.ofKey rest)) :
    ((setLayer t ⟨p, ls'⟩).map (·.pfx)).Nodup ∧ FCore (upd (lay t) p (some ls')) ∧
    WalkUpd (lay t) (upd (lay t) p (some ls')) p rest (oe.bind (·.val)) := by
  have hc := hF.core _ _ hlay
  have hp' : upd (lay t) p (some ls') p = some ls' := upd_same _ _ _
  refine ⟨?_, hF.update hlay hc' ?_ ?_, ?_, ?_⟩
  · rw [pfx_setLayer_of_mem (by rw [← lay_isSome, hlay]; rfl)]; exact hnd
  · intro x hx
    rcases (hmem x).mp hx with h | h
    · obtain ⟨hk, hnz⟩ := hoe x h
      rw [hk, ofKey_len_short hshort]
      exact Or.inr ⟨by omega, fun hp e => hnz hp (List.eq_nil_of_length_eq_zero e)⟩
    · exact Or.inl h.1
  · intro x hx h9
    exact (hmem x).mpr (Or.inr ⟨hx, fun hk => ofKey_len_ne9 hshort (hk ▸ h9)⟩)
  · intro q hq
    exact upd_other _ _ _ (fun e => hq (e ▸ List.prefix_refl _))
  · intro rest'
    by_cases hk : KT.ofKey rest' = KT.ofKey rest
    · have e' := ofKey_eq_short hshort hk
      subst e'
      rw [if_pos rfl]
      cases oe with
      | none =>
        apply walkM_none
        rw [lookF_none_iff hp' hc' (KT.ofKey_wf _)]
        intro x hx
        rcases (hmem x).mp hx with h | h
        · cases h
        · exact h.2
      | some e =>
        have : lookF (upd (lay t) p (some ls')) p (KT.ofKey rest') = some e := by
          rw [lookF_some_iff hp' hc' (KT.ofKey_wf _)]
          exact ⟨(hmem e).mpr (Or.inl rfl), (hoe e rfl).1⟩
        rw [walkM_short this hshort]; rfl
    · rw [if_neg (fun e => hk (by rw [e]))]
      refine walk_other hlay hp' hc hc' (k := KT.ofKey rest) ?_ ?_ hk
      · intro x hx
        rw [hmem]
        exact ⟨fun h => h.elim (fun h => absurd (hoe x h).1 hx) (·.1), fun h => Or.inr ⟨h, hx⟩⟩
      · intro s' hs' _ q hq
        exact upd_other _ _ _ (fun e => not_prefix_append_self _ _ (ne_nil_of_len8 hs') (e ▸ hq))

theorem sorted_split_ne {P Q : List Ent} {e : Ent}
    (hs : (P ++ e :: Q).Pairwise (fun a b => KT.ltSpec a.kt b.kt = true)) :
    (∀ x ∈ P, x.kt ≠ e.kt) ∧ (∀ x ∈ Q, x.kt ≠ e.kt) := by
  rw [List.pairwise_append, List.pairwise_cons] at hs
  exact ⟨fun x hx => lt_ne (hs.2.2 x hx e (by simp)), fun x hx => lt_ne' (hs.2.1.1 x hx)⟩

theorem mem_replace_sorted {P Q : List Ent} {e : Ent}
    (hs : (P ++ e :: Q).Pairwise (fun a b => KT.ltSpec a.kt b.kt = true)) (oe : Option Ent) (x : Ent) :
    x ∈ P ++ (oe.toList ++ Q) ↔ oe = some x ∨ (x ∈ P ++ e :: Q ∧ x.kt ≠ e.kt) := by
  obtain ⟨h1, h2⟩ := sorted_split_ne hs
  simp only [List.mem_append, List.mem_cons, Option.mem_toList]
  constructor
  · rintro (h | h | h)
    · exact Or.inr ⟨Or.inl h, h1 x h⟩
    · exact Or.inl h
    · exact Or.inr ⟨Or.inr (Or.inr h), h2 x h⟩
  · rintro (h | ⟨h | h | h, hk⟩)
    · exact Or.inr (Or.inl h)
    · exact Or.inl h
    · exact absurd (h ▸ rfl) hk
    · exact Or.inr (Or.inr h)

/-- `LeafOK` looks at the tuples only, the link clause apart. -/
theorem LeafOK.of_kts {leaf leaf' : Leaf} (h : LeafOK leaf) (hf : leaf'.fence = leaf.fence)
    (hk : (leaf'.ents.map (·.kt)).Sublist (leaf.ents.map (·.kt)))
    (hv : ∀ e ∈ leaf'.ents, e.val = none ↔ e.kt.len = 9) : LeafOK leaf' := by
  have hmem : ∀ e ∈ leaf'.ents, ∃ e0 ∈ leaf.ents, e0.kt = e.kt := fun e he =>
    List.mem_map.mp (hk.subset (List.mem_map.mpr ⟨e, he, rfl⟩))
  refine ⟨?_, ?_, ?_, ?_⟩
  · have := hk.length_le
    simp only [List.length_map] at this
    exact Nat.le_trans this h.1
  · intro e he
    obtain ⟨e0, he0, hek⟩ := hmem e he
    exact ⟨hek ▸ (h.2.1 e0 he0).1, hv e he⟩
  · have h1 : (leaf.ents.map (·.kt)).Pairwise (fun a b => KT.ltSpec a b = true) :=
      List.pairwise_map.mpr h.2.2.1
    exact List.pairwise_map.mp (h1.sublist hk)
  · intro f hf' e he
    obtain ⟨e0, he0, hek⟩ := hmem e he
    rw [← hek]; exact h.2.2.2 f (hf ▸ hf') e0 he0

theorem LayerCore.replace_ent {pre post : List Leaf} {leaf leaf' : Leaf} {a b : List Ent} {e : Ent}
    (hc : LayerCore (pre ++ leaf :: post)) (h3 : leaf.ents = a ++ e :: b) (oe : Option Ent)
    (hf : leaf'.fence = leaf.fence) (he : leaf'.ents = a ++ (oe.toList ++ b))
    (hoe : ∀ e' ∈ oe, e'.kt = e.kt ∧ (e'.val = none ↔ e'.kt.len = 9)) :
    LayerCore (pre ++ leaf' :: post) ∧
    ∀ x, x ∈ layerEnts (pre ++ leaf' :: post) ↔
      oe = some x ∨ (x ∈ layerEnts (pre ++ leaf :: post) ∧ x.kt ≠ e.kt) := by
  have hl : LeafOK leaf := hc.leafOK
  have hsub : (leaf'.ents.map (·.kt)).Sublist (leaf.ents.map (·.kt)) := by
    rw [he, h3]
    cases oe with
    | none => simp
    | some e' => simp [(hoe e' rfl).1]
  have hl' : LeafOK leaf' := by
    refine hl.of_kts hf hsub ?_
    intro x hx
    rw [he] at hx
    simp only [List.mem_append, Option.mem_toList] at hx
    rcases hx with hx | hx | hx
    · exact (hl.2.1 x (by rw [h3]; simp [hx])).2
    · exact (hoe x hx).2
    · exact (hl.2.1 x (by rw [h3]; simp [hx])).2
  refine ⟨hc.replace hf hl' ?_, ?_⟩
  · intro b' hb' f hf' x hx
    obtain ⟨x0, hx0, hxk⟩ := List.mem_map.mp (hsub.subset (List.mem_map.mpr ⟨x, hx, rfl⟩))
    rw [← hxk]; exact (hc.before_post b' hb' f hf').2 x0 hx0
  · intro x
    have hs := layerEnts_sorted hc
    have e1 : layerEnts (pre ++ leaf :: post) = (layerEnts pre ++ a) ++ e :: (b ++ layerEnts post) := by
      rw [layerEnts_split, h3]; simp
    have e2 : layerEnts (pre ++ leaf' :: post) =
        (layerEnts pre ++ a) ++ (oe.toList ++ (b ++ layerEnts post)) := by
      rw [layerEnts_split, he]; simp
    rw [e1] at hs ⊢
    rw [e2]
    exact mem_replace_sorted hs oe x

theorem EmptOK.replace {r : Bool} {pre post : List Leaf} {leaf leaf' : Leaf}
    (h : EmptOK r (pre ++ leaf :: post)) (hne : leaf.ents ≠ []) (hne' : leaf'.ents ≠ [])
    (hd : leaf'.deleted = leaf.deleted) : EmptOK r (pre ++ leaf' :: post) := by
  have hfull := h.allFull hne
  exact (hfull.others.insert hne' (hd ▸ (hfull leaf (by simp)).2)).emptOK r

theorem point_update_inv {t : Tree} (hnd : (t.map (·.pfx)).Nodup) (hF : FCore (lay t))
    (hE : FEmpt (lay t)) {p : List UInt8} {ls ls' : List Leaf} (hlay : lay t p = some ls)
    (hc' : LayerCore ls') (hE' : EmptOK p.isEmpty ls') {rest : Key} (hshort : ¬ rest.length > 8)
    {oe : Option Ent} (hoe : ∀ e ∈ oe, e.kt = KT.ofKey rest ∧ (p ≠ [] → rest ≠ []))
    (hmem : ∀ x, x ∈ layerEnts ls' ↔ oe = some x ∨ (x ∈ layerEnts ls ∧ x.kt ≠ KT.ofKey rest)) :
    Inv (setLayer t ⟨p, ls'⟩) ∧
    WalkUpd (lay t) (lay (setLayer t ⟨p, ls'⟩)) p rest (oe.bind (·.val)) := by
  obtain ⟨h1, h2, h3⟩ := point_update hnd hF hlay hc' hshort hoe hmem
  rw [inv_iff, lay_setLayer_mk]
  exact ⟨⟨h1, h2, hE.update hE'⟩, h3⟩

theorem putAt_of_miss {t : Tree} {p : List UInt8} {L : Layer} (hL : findLayer t p = some L) {rest : Key}
    (h : layerGet L.leaves (KT.ofKey rest) = none) (v : Val) (u : Bool) :
    putAt t p rest v u = insertInto t L (route (KT.ofKey rest) L.leaves) rest v := by
  rw [putAt, hL]
  dsimp only
  cases hlk : leafLookup (KT.ofKey rest)
      (leafKeys (L.leaves.getD (route (KT.ofKey rest) L.leaves) emptyLeaf)) with
  | none => rfl
  | some r => rw [layerGet_of_lookup hlk] at h; cases h

theorem putAt_of_link {t : Tree} {p : List UInt8} {L : Layer} (hL : findLayer t p = some L) {rest : Key}
    {e : Ent} (h : layerGet L.leaves (KT.ofKey rest) = some e) (hl : rest.length > 8) (v : Val)
    (u : Bool) : putAt t p rest v u = putAt t (p ++ rest.take 8) (rest.drop 8) v u := by
  rw [putAt, hL]
  dsimp only
  cases hlk : leafLookup (KT.ofKey rest)
      (leafKeys (L.leaves.getD (route (KT.ofKey rest) L.leaves) emptyLeaf)) with
  | none => rw [layerGet_of_lookup_none hlk] at h; cases h
  | some r => dsimp only; rw [dif_pos hl]

theorem putAt_of_last {t : Tree} {p : List UInt8} {L : Layer} (hL : findLayer t p = some L) {rest : Key}
    (hl : ¬ rest.length > 8) {pre post : List Leaf} {leaf : Leaf} {a b : List Ent} {e : Ent}
    (hr : Routed L.leaves (KT.ofKey rest) pre leaf post) (hs : leaf.ents = a ++ e :: b)
    (hlk : leafLookup (KT.ofKey rest) (leafKeys leaf) = some a.length) (v : Val) (u : Bool) :
    putAt t p rest v u = if u then { tree := t, status := .WARN_UNIQUE_RESTRICTION } else
      { tree := setLayer t ⟨p, pre ++ { leaf with ents := a ++ ⟨e.kt, some v⟩ :: b } :: post⟩,
        status := .OK } := by
  obtain ⟨rfl, _⟩ := findLayer_some hL
  rw [putAt, hL]
  simp only [hr.getD, hlk, dif_neg hl, hr.set, hs]
  simp

theorem put_insert_tree {t : Tree} (hnd : (t.map (·.pfx)).Nodup) (hF : FCore (lay t))
    (hE : FEmpt (lay t)) {p : List UInt8} {L : Layer} (hL : findLayer t p = some L) {rest : Key}
    (hmiss : layerGet L.leaves (KT.ofKey rest) = none) (hpr : p ≠ [] → rest ≠ []) (v : Val) :
    Inv (insertInto t L (route (KT.ofKey rest) L.leaves) rest v).tree ∧
    WalkUpd (lay t) (lay (insertInto t L (route (KT.ofKey rest) L.leaves) rest v).tree) p rest
      (some v) := by
  obtain ⟨rfl, _⟩ := findLayer_some hL
  have hlay : lay t L.pfx = some L.leaves := lay_of_findLayer hL
  have hc : LayerCore L.leaves := hF.core _ _ hlay
  have hkw : (KT.ofKey rest).WF := KT.ofKey_wf rest
  have hno : ∀ x ∈ layerEnts L.leaves, x.kt ≠ (entOf rest v).kt := by
    rw [entOf_kt]; exact (layerGet_none_iff hc hkw).mp hmiss
  obtain ⟨hc', hE', hmem⟩ := insLeaves_spec hc (hE _ _ hlay) (e := entOf rest v)
    (by rw [entOf_kt]; exact hkw) (entOf_val rest v) hno
  rw [entOf_kt] at hc' hE' hmem hno
  rw [insertInto_eq]
  dsimp only
  generalize insLeaves L.leaves (KT.ofKey rest) (entOf rest v) = ls' at *
  by_cases hl : rest.length > 8
  · -- a link entry in layer `p`, and the fresh chain of layers below it
    have hs8 := take8_len hl
    have hr' := drop8_ne_nil hl
    have hsub : subOf L.pfx rest v = freshLayers (L.pfx ++ rest.take 8) (rest.drop 8) v := by
      unfold subOf; rw [if_pos hl]
    have hG : FreshOK (lay (subOf L.pfx rest v)) (L.pfx ++ rest.take 8) := hsub ▸ fresh_ok _ _ v hr'
    have hGnd : ((subOf L.pfx rest v).map (·.pfx)).Nodup := hsub ▸ fresh_nodup _ _ v
    generalize subOf L.pfx rest v = sub at hsub hG hGnd ⊢
    have hGdom : ∀ q x, lay sub q = some x → L.pfx ++ rest.take 8 <+: q ∧ q ≠ L.pfx := fun q x hx =>
      have hq := (hG.dom _ _ hx).1
      ⟨hq, fun e => not_prefix_append_self _ _ (ne_nil_of_len8 hs8) (e ▸ hq)⟩
    -- no link for this slice, so no layer below it: the fresh layers are disjoint from the old
    have hdisj : ∀ q, L.pfx ++ rest.take 8 <+: q → lay t q = none := fun q hq =>
      hF.none_below hlay hs8 (fun x hx => ofKey_long hl ▸ hno x hx) q hq
    have hnd' : ((setLayer t ⟨L.pfx, ls'⟩ ++ sub).map (·.pfx)).Nodup := by
      refine nodup_append_tree ?_ hGnd ?_
      · rw [pfx_setLayer_of_mem (by simp only; rw [hL]; rfl)]; exact hnd
      · intro q hq
        rw [← lay_isSome] at hq
        obtain ⟨x, hx⟩ := Option.isSome_iff_exists.mp hq
        obtain ⟨hpq, hqp⟩ := hGdom q x hx
        rw [findLayer_setLayer, if_neg hqp]
        exact Option.map_eq_none_iff.mp (hdisj q hpq)
    have hview : ∀ q, lay (setLayer t ⟨L.pfx, ls'⟩ ++ sub) q =
        if q = L.pfx then some ls' else (lay t q).or (lay sub q) := by
      intro q
      rw [lay_append, lay_setLayer_mk]
      unfold upd
      by_cases e : q = L.pfx <;> simp [e]
    generalize setLayer t ⟨L.pfx, ls'⟩ ++ sub = t' at hnd' hview ⊢
    have hp' : lay t' L.pfx = some ls' := by rw [hview]; exact if_pos rfl
    have hoff : ∀ q, q ≠ L.pfx → ¬ L.pfx ++ rest.take 8 <+: q → lay t' q = lay t q := by
      intro q hq hq2
      rw [hview, if_neg hq]
      cases hx : lay sub q with
      | none => simp
      | some x => exact absurd (hGdom q x hx).1 hq2
    refine ⟨(inv_iff _).mpr ⟨hnd', ?_, ?_⟩, ?_, ?_⟩
    · rw [funext hview]
      exact hF.insertLong (e := entOf rest v) hlay hc' hs8 (by rw [entOf_kt]; exact ofKey_long hl)
        hmem hG hdisj
    · intro q x hq
      rw [hview] at hq
      by_cases e : q = L.pfx
      · rw [if_pos e] at hq
        rw [e, ← Option.some.inj hq]; exact hE'
      · rw [if_neg e, Option.or_eq_some_iff] at hq
        exact hq.elim (hE _ _) (fun h => hG.emptOK h.2 _)
    · intro q hq
      exact hoff q (fun e => hq (e ▸ List.prefix_refl _))
        (fun h => hq ((List.prefix_append _ _).trans h))
    · intro rest'
      by_cases hk : KT.ofKey rest' = KT.ofKey rest
      · have hnew : lookF (lay t') L.pfx (KT.ofKey rest') = some (entOf rest v) := by
          rw [lookF_some_iff hp' hc' (KT.ofKey_wf rest')]
          exact ⟨(hmem _).mpr (Or.inl rfl), by rw [entOf_kt, hk]⟩
        have hold : lookF (lay t) L.pfx (KT.ofKey rest') = none := by
          rw [hk, lookF_lay hL]; exact hmiss
        obtain ⟨hl', htake⟩ := ofKey_eq_long hl hk
        rw [walkM_none hold, walkM_long hnew hl', htake,
          walk_fresh v _ (rest.drop 8) (L.pfx ++ rest.take 8) ?_ (rest'.drop 8)]
        · simp only [eq_iff_drop8 htake]
        · intro q k hq _
          have hqp : q ≠ L.pfx := fun e => not_prefix_append_self _ _ (ne_nil_of_len8 hs8) (e ▸ hq)
          exact lookF_congr_chain (by rw [hview, if_neg hqp, hdisj q hq, Option.none_or, hsub]) k
      · rw [if_neg (fun e => hk (by rw [e]))]
        refine walk_other hlay hp' hc hc' (k := KT.ofKey rest) ?_ ?_ hk
        · intro x hx
          rw [hmem]
          exact ⟨fun h => h.elim (fun h => absurd (h ▸ entOf_kt rest v) hx) id, Or.inr⟩
        · intro s' hs' hs'k q hq
          refine hoff q (fun e => not_prefix_append_self _ _ (ne_nil_of_len8 hs') (e ▸ hq)) ?_
          exact not_prefix_of_slice_ne hs8 hs' (fun e => hs'k (by rw [e, ofKey_long hl])) hq
  · -- a value entry in layer `p`
    have hsub : subOf L.pfx rest v = [] := by unfold subOf; rw [if_neg hl]
    have hval : (entOf rest v).val = some v := by unfold entOf; rw [if_neg hl]
    rw [hsub, List.append_nil, ← hval]
    refine point_update_inv hnd hF hE hlay hc' hE' hl (oe := some (entOf rest v)) ?_ ?_
    · rintro _ ⟨⟩
      exact ⟨entOf_kt rest v, hpr⟩
    · intro x
      rw [hmem, Option.some.injEq]
      exact ⟨fun h => h.imp Eq.symm (fun h => ⟨h, hno x h⟩), fun h => h.imp Eq.symm (·.1)⟩

theorem put_update_tree {t : Tree} (hnd : (t.map (·.pfx)).Nodup) (hF : FCore (lay t))
    (hE : FEmpt (lay t)) {p : List UInt8} {L : Layer} (hL : findLayer t p = some L) {rest : Key}
    (hshort : ¬ rest.length > 8) (hpr : p ≠ [] → rest ≠ []) {pre post : List Leaf} {leaf : Leaf}
    {a b : List Ent} {e : Ent} (hr : Routed L.leaves (KT.ofKey rest) pre leaf post)
    (hs : leaf.ents = a ++ e :: b) (hek : e.kt = KT.ofKey rest) (v : Val) :
    Inv (setLayer t ⟨p, pre ++ { leaf with ents := a ++ ⟨e.kt, some v⟩ :: b } :: post⟩) ∧
    WalkUpd (lay t)
      (lay (setLayer t ⟨p, pre ++ { leaf with ents := a ++ ⟨e.kt, some v⟩ :: b } :: post⟩))
      p rest (some v) := by
  have hlay : lay t p = some (pre ++ leaf :: post) := hr.eq ▸ lay_of_findLayer hL
  have h9 : e.kt.len ≠ 9 := hek ▸ ofKey_len_ne9 hshort
  obtain ⟨hc', hmem⟩ := (hF.core _ _ hlay).replace_ent hs (some ⟨e.kt, some v⟩)
    (leaf' := { leaf with ents := a ++ ⟨e.kt, some v⟩ :: b }) rfl rfl
    (by rintro _ ⟨⟩; exact ⟨rfl, by simp [h9]⟩)
  rw [hek] at hc' hmem ⊢
  refine point_update_inv hnd hF hE hlay hc' ?_ hshort (oe := some ⟨KT.ofKey rest, some v⟩)
    (by rintro _ ⟨⟩; exact ⟨rfl, hpr⟩) hmem
  exact (hE _ _ hlay).replace (by rw [hs]; simp) (by simp) rfl

/-- `p ≠ [] → rest ≠ []` along the descent: below the root no tuple is empty (`FCore.nz`), and a
    lower layer is entered with `rest.drop 8 ≠ []` -/
theorem putAt_spec {t : Tree} (hnd : (t.map (·.pfx)).Nodup) (hF : FCore (lay t)) (hE : FEmpt (lay t))
    (v : Val) (u : Bool) : ∀ (rest : Key) (p : List UInt8), (lay t p).isSome → (p ≠ [] → rest ≠ []) →
    ((walkM (lookF (lay t)) p rest).isSome = true → u = true →
      (putAt t p rest v u).status = .WARN_UNIQUE_RESTRICTION ∧ (putAt t p rest v u).tree = t) ∧
    ((walkM (lookF (lay t)) p rest = none ∨ u = false) →
      (putAt t p rest v u).status = .OK ∧ Inv (putAt t p rest v u).tree ∧
      WalkUpd (lay t) (lay (putAt t p rest v u).tree) p rest (some v)) := by
  refine descent hF ?_ ?_ ?_
  · intro p L rest hL hg hpr
    rw [putAt_of_miss hL hg, walkM_none ((lookF_lay hL _).trans hg)]
    exact ⟨fun h => (by cases h), fun _ => ⟨by rw [insertInto_eq], put_insert_tree hnd hF hE hL hg hpr v⟩⟩
  · intro p L rest e hL hg hl hpr
    have hlook := (lookF_lay hL _).trans hg
    obtain ⟨pre, leaf, post, a, b, hr, hs, hek, hlk⟩ :=
      hit_split (hF.core _ _ (lay_of_findLayer hL)) (KT.ofKey_wf rest) hg
    rw [putAt_of_last hL hl hr hs hlk, walkM_short hlook hl]
    cases u with
    | true =>
      exact ⟨fun _ _ => ⟨rfl, rfl⟩, fun h => h.elim
        (fun h => absurd h (val_of_lookF_short hF hlook hl)) (fun h => by cases h)⟩
    | false =>
      exact ⟨fun _ h => (by cases h), fun _ => ⟨rfl, put_update_tree hnd hF hE hL hl hpr hr hs hek v⟩⟩
  · intro p L rest e hL hg hl ih hpr
    have hlook := (lookF_lay hL _).trans hg
    rw [putAt_of_link hL hg hl, walkM_long hlook hl]
    obtain ⟨h1, h2⟩ := ih (fun _ => drop8_ne_nil hl)
    exact ⟨h1, fun h => ⟨(h2 h).1, (h2 h).2.1, (h2 h).2.2.lift hlook hl⟩⟩

/-! ### C02: get, put and unique put; the fresh storage -/

theorem lay_root_isSome {t : Tree} (hF : FCore (lay t)) : (lay t []).isSome := hF.root

theorem put_refines (t : Tree) (k : Key) (v : Val) (h : Inv t) :
    (put t k v false).status = Status.OK ∧ Inv (put t k v false).tree ∧
    ∀ k', (get (put t k v false).tree k').val = if k' = k then some v else (get t k').val := by
  obtain ⟨hnd, hF, hE⟩ := (inv_iff t).mp h
  obtain ⟨h1, h2, h3⟩ := (putAt_spec hnd hF hE v false k [] hF.root (fun h => absurd rfl h)).2 (Or.inr rfl)
  refine ⟨h1, h2, fun k' => ?_⟩
  unfold get
  rw [getAt_val, getAt_val]
  exact h3.walk k'

theorem uput_refines (t : Tree) (k : Key) (v : Val) (h : Inv t) :
    (((get t k).val).isSome = true →
      (put t k v true).status = Status.WARN_UNIQUE_RESTRICTION ∧ (put t k v true).tree = t) ∧
    ((get t k).val = none → (put t k v true).status = Status.OK ∧ Inv (put t k v true).tree ∧
      ∀ k', (get (put t k v true).tree k').val = if k' = k then some v else (get t k').val) := by
  obtain ⟨hnd, hF, hE⟩ := (inv_iff t).mp h
  have hs := putAt_spec hnd hF hE v true k [] hF.root (fun h => absurd rfl h)
  unfold get at *
  rw [getAt_val]
  refine ⟨fun hk => hs.1 hk rfl, fun hk => ?_⟩
  obtain ⟨h1, h2, h3⟩ := hs.2 (Or.inl hk)
  refine ⟨h1, h2, fun k' => ?_⟩
  rw [getAt_val, getAt_val]
  exact h3.walk k'

theorem get_refines (t : Tree) (k : Key) (h : Inv t) :
    (get t k).status = (if ((get t k).val).isSome then Status.OK else Status.WARN_NOT_EXIST) := by
  obtain ⟨_, hF, _⟩ := (inv_iff t).mp h
  unfold get
  rw [getAt_val]
  exact getAt_status hF [] k hF.root

theorem inv_empty : Inv Tree.empty ∧ ∀ k, (get Tree.empty k).val = none := by
  refine ⟨by decide, ?_⟩
  intro k
  unfold get
  rw [getAt_val]
  apply walkM_none
  unfold lookF lay findLayer Tree.empty
  simp [layerGet, leafGet, route, routeFrom, emptyLeaf, leafKeys, leafLookup]

/-! ### C12: which border nodes a `put` reports -/

/-- where the descent of a put stops; the put is the one started there -/
theorem putAt_lands {t : Tree} (hF : FCore (lay t)) (v : Val) (u : Bool) :
    ∀ (rest : Key) (p : List UInt8), (lay t p).isSome →
    ∃ p' L rest', findLayer t p' = some L ∧ putAt t p rest v u = putAt t p' rest' v u ∧
      walkM (lookF (lay t)) p rest = walkM (lookF (lay t)) p' rest' ∧
      (layerGet L.leaves (KT.ofKey rest') = none ∨
        ∃ e, layerGet L.leaves (KT.ofKey rest') = some e ∧ ¬ rest'.length > 8) := by
  refine descent hF ?_ ?_ ?_
  · intro p L rest hL hg
    exact ⟨p, L, rest, hL, rfl, rfl, Or.inl hg⟩
  · intro p L rest e hL hg hl
    exact ⟨p, L, rest, hL, rfl, rfl, Or.inr ⟨e, hg, hl⟩⟩
  · rintro p L rest e hL hg hl ⟨p', L', rest', hL', heq, hw, hc⟩
    exact ⟨p', L', rest', hL', (putAt_of_link hL hg hl v u).trans heq,
      (walkM_long ((lookF_lay hL _).trans hg) hl).trans hw, hc⟩

theorem put_lands {t : Tree} (hF : FCore (lay t)) (k : Key) (v : Val) (u : Bool) :
    ∃ q L rest, findLayer t q = some L ∧ put t k v u = putAt t q rest v u ∧
      (get t k).val = walkM (lookF (lay t)) q rest ∧
      (layerGet L.leaves (KT.ofKey rest) = none ∨
        ∃ e, layerGet L.leaves (KT.ofKey rest) = some e ∧ ¬ rest.length > 8) := by
  obtain ⟨q, L, rest, hL, heq, hw, hc⟩ := putAt_lands hF v u k [] hF.root
  exact ⟨q, L, rest, hL, heq, (getAt_val t [] k).trans hw, hc⟩

theorem put_update_changes_nothing (t : Tree) (k : Key) (v : Val) (h : Inv t)
    (hk : ((get t k).val).isSome = true) :
    (put t k v false).modified = none ∧ (put t k v false).created = none ∧
    (put t k v false).tree.length = t.length ∧
    ∀ L ∈ t, ∃ L' ∈ (put t k v false).tree, L'.pfx = L.pfx ∧
      L'.leaves.map (fun l => (l.vins, l.vsplit, l.deleted)) =
        L.leaves.map (fun l => (l.vins, l.vsplit, l.deleted)) := by
  obtain ⟨hnd, hF, _⟩ := (inv_iff t).mp h
  obtain ⟨q, L, rest, hL, heq, hw, hc⟩ := put_lands hF k v false
  have hlook := lookF_lay hL (KT.ofKey rest)
  rw [hw] at hk
  rw [heq]
  rcases hc with hg | ⟨e, hg, hl⟩
  · rw [walkM_none (hlook.trans hg)] at hk; cases hk
  obtain ⟨pre, leaf, post, a, b, hr, hs, _, hlk⟩ :=
    hit_split (hF.core _ _ (lay_of_findLayer hL)) (KT.ofKey_wf rest) hg
  rw [putAt_of_last hL hl hr hs hlk, if_neg (by simp)]
  refine ⟨rfl, rfl, length_setLayer_of_mem (by simp only; rw [hL]; rfl), ?_⟩
  intro M hM
  have hfM := findLayer_of_mem hnd hM
  have hf' := findLayer_setLayer t ⟨q, pre ++ { leaf with ents := a ++ ⟨e.kt, some v⟩ :: b } :: post⟩
    M.pfx
  by_cases e : M.pfx = q
  · rw [if_pos e] at hf'
    rw [e, hL] at hfM
    cases hfM
    exact ⟨_, (findLayer_some hf').2, e.symm, by rw [hr.eq]; simp⟩
  · rw [if_neg e, hfM] at hf'
    exact ⟨M, (findLayer_some hf').2, rfl, rfl⟩

theorem put_insert_reports (t : Tree) (k : Key) (v : Val) (uniq : Bool) (h : Inv t)
    (hk : (get t k).val = none) :
    ∃ p i L leaf, (put t k v uniq).modified = some (p, i) ∧ findLayer t p = some L ∧
      L.leaves[i]? = some leaf ∧
      (∀ M ∈ t, M.pfx ≠ p → M ∈ (put t k v uniq).tree) ∧
      ∃ L', findLayer (put t k v uniq).tree p = some L' ∧
        (((put t k v uniq).created = none ∧ ∃ leaf', L'.leaves = L.leaves.set i leaf' ∧
            leaf'.vins = leaf.vins + 1 ∧ leaf'.vsplit = leaf.vsplit ∧ leaf.ents.length < 15) ∨
         ((put t k v uniq).created = some (p, i + 1) ∧ ∃ a b,
            L'.leaves = L.leaves.take i ++ [a, b] ++ L.leaves.drop (i + 1) ∧
            a.vins = leaf.vins + 1 ∧ a.vsplit = leaf.vsplit + 1 ∧
            b.vins = leaf.vins + 1 ∧ b.vsplit = leaf.vsplit + 1 ∧ leaf.ents.length = 15)) := by
  obtain ⟨hnd, hF, _⟩ := (inv_iff t).mp h
  obtain ⟨q, L, rest, hL, heq, hw, hc⟩ := put_lands hF k v uniq
  have hlook := lookF_lay hL (KT.ofKey rest)
  rw [hw] at hk
  rw [heq]
  rcases hc with hg | ⟨e, hg, hl⟩
  · obtain ⟨rfl, _⟩ := findLayer_some hL
    rw [putAt_of_miss hL hg, insertInto_eq]
    dsimp only
    obtain ⟨leaf, h1, h2, h3⟩ := insLeaves_report (hF.core _ _ (lay_of_findLayer hL))
      (KT.ofKey_wf rest) (entOf rest v)
    rw [h2]
    refine ⟨_, _, L, leaf, rfl, hL, h1,
      fun M hM hne => List.mem_append_left _ (findLayer_some (by
        rw [findLayer_setLayer, if_neg hne]; exact findLayer_of_mem hnd hM)).2,
      { L with leaves := insLeaves L.leaves (KT.ofKey rest) (entOf rest v) }, ?_, ?_⟩
    · rw [findLayer_append, findLayer_setLayer, if_pos rfl]; rfl
    · rcases h3 with ⟨hlt, leaf', e1, e2, e3⟩ | ⟨hlen, a, b, e1, e2, e3, e4, e5⟩
      · exact Or.inl ⟨if_pos (by simpa [Yak.Const.keySliceLength] using hlt), leaf', e1, e2, e3, hlt⟩
      · exact Or.inr ⟨if_neg (by simp [Yak.Const.keySliceLength, hlen]), a, b, e1, e2, e3, e4, e5,
          hlen⟩
  · rw [walkM_short (hlook.trans hg) hl] at hk
    exact absurd hk (val_of_lookF_short hF (hlook.trans hg) hl)

end Yak.Tree
