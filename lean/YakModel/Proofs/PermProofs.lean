import YakModel.Perm
/-!
# Proofs about the permutation word (`YakModel/Perm.lean`)

`nib w i` is nibble `i` of the 64-bit word: nibble 0 the count, nibble `r + 1` the slot of rank `r`.
Words are compared nibble by nibble (`ext_nib`). `insertRank` and `deleteRank` are two instances
of one word, `splice`, whose nibbles are described once, uniformly in the nibble index.
-/
namespace Yak.Perm
open Yak.Const

def nib (w : BitVec 64) (i : Nat) : Nat := ((w >>> (4*i)) &&& 15#64).toNat

theorem getLsbD_15 (j : Nat) : (15#64).getLsbD j = decide (j < 4) := by
  rw [BitVec.getLsbD_ofNat, show (15:Nat) = 2^4 - 1 from rfl, Nat.testBit_two_pow_sub_one]
  by_cases h : j < 4
  · have : j < 64 := by omega
    simp [h, this]
  · simp [h]

theorem nib_testBit (w : BitVec 64) (i j : Nat) :
    (nib w i).testBit j = (decide (j < 4) && w.getLsbD (4*i+j)) := by
  unfold nib
  rw [← BitVec.getLsbD, BitVec.getLsbD_and, BitVec.getLsbD_ushiftRight, getLsbD_15, Bool.and_comm]

theorem nib_eq_mod (w : BitVec 64) (i : Nat) : nib w i = w.toNat >>> (4*i) % 16 := by
  rw [nib, BitVec.toNat_and, BitVec.toNat_ushiftRight]
  exact Nat.and_two_pow_sub_one_eq_mod _ 4

theorem nib_lt (w : BitVec 64) (i : Nat) : nib w i < 16 := by
  rw [nib_eq_mod]; omega

theorem nib_eq_of_bits {a b : BitVec 64} {i k : Nat}
    (h : ∀ j, j < 4 → a.getLsbD (4*i+j) = b.getLsbD (4*k+j)) : nib a i = nib b k := by
  apply Nat.eq_of_testBit_eq
  intro j
  rw [nib_testBit, nib_testBit]
  by_cases hj : j < 4
  · simp [hj, h j hj]
  · simp [hj]

theorem nib_zero (i : Nat) : nib 0#64 i = 0 := by simp [nib]

theorem nib_eq_zero_of_bits {a : BitVec 64} {i : Nat}
    (h : ∀ j, j < 4 → a.getLsbD (4*i+j) = false) : nib a i = 0 :=
  (nib_eq_of_bits (b := 0#64) (k := 0) fun j hj => by simpa using h j hj).trans (nib_zero 0)

theorem nib_ge16 (w : BitVec 64) {i : Nat} (h : 16 ≤ i) : nib w i = 0 :=
  nib_eq_zero_of_bits fun j _ => BitVec.getLsbD_of_ge _ _ (by omega)

theorem nib_or (x y : BitVec 64) (i : Nat) : nib (x ||| y) i = nib x i ||| nib y i := by
  apply Nat.eq_of_testBit_eq
  intro j
  simp only [Nat.testBit_or, nib_testBit, BitVec.getLsbD_or, Bool.and_or_distrib_left]

theorem nib_ushiftRight (x : BitVec 64) (k i : Nat) : nib (x >>> (4*k)) i = nib x (i+k) := by
  apply nib_eq_of_bits
  intro j _
  rw [BitVec.getLsbD_ushiftRight]
  congr 1; omega

theorem nib_shiftLeft {x : BitVec 64} {k i : Nat} (hi : i < 16) :
    nib (x <<< (4*k)) i = if i < k then 0 else nib x (i-k) := by
  split
  · next h =>
    apply nib_eq_zero_of_bits
    intro j hj
    rw [BitVec.getLsbD_shiftLeft]
    have : 4 * i + j < 4 * k := by omega
    simp [this]
  · next h =>
    apply nib_eq_of_bits
    intro j hj
    rw [BitVec.getLsbD_shiftLeft]
    have h1 : ¬ (4 * i + j < 4 * k) := by omega
    have h2 : 4 * i + j < 64 := by omega
    have h3 : 4 * i + j - 4 * k = 4 * (i - k) + j := by omega
    simp [h1, h2, h3]

theorem nib_ofNat {p : Nat} (i : Nat) (hp : p < 16) :
    nib (BitVec.ofNat 64 p) i = if i = 0 then p else 0 := by
  rw [nib_eq_mod, BitVec.toNat_ofNat, Nat.mod_eq_of_lt (show p < 2 ^ 64 by omega),
    Nat.shiftRight_eq_div_pow]
  split
  next h => subst h; rw [Nat.mul_zero, Nat.pow_zero, Nat.div_one, Nat.mod_eq_of_lt hp]
  next h =>
    have : 2 ^ 4 ≤ 2 ^ (4 * i) := Nat.pow_le_pow_right (by decide) (by omega)
    rw [Nat.div_eq_of_lt (by omega)]

/-- clearing the count nibble is a shift right and back left by one nibble -/
theorem nib_setCnk {x : W} {c i : Nat} (hc : c < 16) (hi : i < 16) :
    nib (setCnk x c) i = if i = 0 then c else nib x i := by
  rw [setCnk, show ~~~(15#64) = BitVec.allOnes 64 <<< (4 * 1) by decide,
    ← BitVec.shiftLeft_ushiftRight, nib_or, nib_ofNat i hc, nib_shiftLeft hi, nib_ushiftRight]
  by_cases h : i = 0
  · rw [if_pos (by omega), if_pos h, if_pos h, Nat.zero_or]
  · rw [if_neg (by omega), if_neg h, if_neg h, Nat.or_zero, Nat.sub_add_cancel (by omega)]

theorem ext_nib {a b : BitVec 64} (h : ∀ i, i < 16 → nib a i = nib b i) : a = b := by
  apply BitVec.eq_of_getLsbD_eq
  intro m hm
  have := congrArg (fun n => n.testBit (m % 4)) (h (m / 4) (by omega))
  simp only [nib_testBit] at this
  have h4 : m % 4 < 4 := Nat.mod_lt _ (by omega)
  have hh : 4 * (m / 4) + m % 4 = m := by omega
  simpa [h4, hh] using this

theorem cnk_eq_nib (w : W) : cnk w = nib w 0 := by
  unfold cnk cnkW nib; simp

theorem cnk_lt (w : W) : cnk w < 16 := by rw [cnk_eq_nib]; exact nib_lt _ _

theorem indexOfRank_eq_nib (w : W) (r : Nat) : indexOfRank w r = nib w (r+1) := by
  cases r with
  | zero => rfl
  | succ k =>
    show ((w >>> 4 >>> (4 * (k + 1))) &&& 15#64).toNat = _
    rw [nib, ← BitVec.shiftRight_add, show 4 + 4 * (k + 1) = 4 * (k + 1 + 1) by omega]

theorem cnkW_eq (w : W) : cnkW w = BitVec.ofNat 64 (cnk w) := by
  apply BitVec.eq_of_toNat_eq
  simp [cnk]

theorem cnkW_add_one (w : W) : cnkW w + 1#64 = BitVec.ofNat 64 (cnk w + 1) := by
  apply BitVec.eq_of_toNat_eq
  simp [BitVec.toNat_add, cnk]

theorem cnkW_sub_one (w : W) (h : 0 < cnk w) : cnkW w - 1#64 = BitVec.ofNat 64 (cnk w - 1) := by
  apply BitVec.eq_of_toNat_eq
  have := cnk_lt w
  simp [BitVec.toNat_sub, cnk] at *
  omega

theorem ofNat_beq (a b : Nat) (ha : a < 16) (hb : b < 16) :
    (BitVec.ofNat 64 a == BitVec.ofNat 64 b) = decide (a = b) := by
  by_cases h : a = b
  · simp [h]
  · simp only [h, decide_false]
    rw [beq_eq_false_iff_ne]
    intro e
    have := congrArg BitVec.toNat e
    simp at this
    omega

/-- What `insert_rank` and `delete_rank` build. `skip` and `rank = 0` are the special cases that
    avoid a shift by 64 bits; they only arise where that copy of `w` contributes nothing. -/
def splice (w : W) (skip : Prop) [Decidable skip] (a b rank : Nat) (t : W) (c : Nat) : W :=
  setCnk ((if skip then 0#64 else (w >>> (4 * a)) <<< (4 * b)) ||| t |||
    (if rank == 0 then 0#64
     else (w <<< (4 * (keySliceLength - rank))) >>> (4 * (keySliceLength - rank)))) c

theorem cnk_splice {w : W} {skip : Prop} [Decidable skip] {a b rank : Nat} {t : W} {c : Nat}
    (hc : c < 16) : cnk (splice w skip a b rank t c) = c := by
  rw [cnk_eq_nib, splice, nib_setCnk hc (by omega), if_pos rfl]

theorem nib_splice {w : W} {skip : Prop} [Decidable skip] {a b rank : Nat} {t : W} {c i : Nat}
    (hc : c < 16) (hr : rank ≤ 15) (hb : rank < b) (hi : i < 16) (hi0 : i ≠ 0)
    (hs : skip → i < b) :
    nib (splice w skip a b rank t c) i =
      (if i ≤ rank then nib w i else if i < b then 0 else nib w (i - b + a)) ||| nib t i := by
  have hR : nib (if rank == 0 then 0#64 else (w <<< (4 * (keySliceLength - rank))) >>>
      (4 * (keySliceLength - rank))) i = if i ≤ rank then nib w i else 0 := by
    by_cases h0 : rank = 0
    · subst h0; rw [if_pos (beq_self_eq_true 0), nib_zero, if_neg (by omega)]
    · rw [if_neg (by simpa using h0), show keySliceLength = 15 from rfl, nib_ushiftRight]
      split
      · rw [nib_shiftLeft (by omega), if_neg (by omega)]; congr 1; omega
      · exact nib_ge16 _ (by omega)
  have hL : nib (if skip then 0#64 else (w >>> (4 * a)) <<< (4 * b)) i =
      if i < b then 0 else nib w (i - b + a) := by
    split
    next h => rw [nib_zero, if_pos (hs h)]
    next => rw [nib_shiftLeft hi, nib_ushiftRight]
  rw [splice, nib_setCnk hc hi, if_neg hi0, nib_or, nib_or, hR, hL, Nat.or_assoc,
    Nat.or_comm (nib t i), ← Nat.or_assoc]
  congr 1
  by_cases h : i < b
  · rw [if_pos h, Nat.zero_or]
  · rw [if_neg h, if_neg (by omega), Nat.or_zero, if_neg (by omega)]

theorem insertRank_eq (w : W) (rank pos : Nat) (hn : cnk w < 15) (hr : rank ≤ cnk w) :
    insertRank w rank pos = splice w (rank = cnk w) (rank + 1) (rank + 2) rank
      ((BitVec.ofNat 64 pos) <<< (4 * (rank + 1))) (cnk w + 1) := by
  unfold insertRank
  simp only []
  rw [BitVec.add_sub_cancel, cnkW_add_one, cnkW_eq w, ofNat_beq _ _ (by omega) (by omega)]
  simp only [decide_eq_true_eq]
  rfl

theorem deleteRank_eq (w : W) (rank : Nat) (hr : rank < cnk w) :
    deleteRank w rank = splice w (rank = cnk w - 1 ∨ rank = keySliceLength - 1) (rank + 2)
      (rank + 1) rank 0#64 (cnk w - 1) := by
  have hc := cnk_lt w
  unfold deleteRank
  simp only []
  rw [cnkW_sub_one w (by omega), ofNat_beq _ _ (by omega) (by omega), splice, BitVec.or_zero]
  simp only [Bool.or_eq_true, decide_eq_true_eq, beq_iff_eq]
  rfl

/-- in the shape of `List.getElem_insertIdx` -/
theorem nib_insertRank (w : W) (rank pos n : Nat) (hn : cnk w < 15) (hr : rank ≤ cnk w)
    (hp : pos < 16) (h : n ≤ cnk w) :
    nib (insertRank w rank pos) (n + 1) =
      if n < rank then nib w (n + 1) else if n = rank then pos else nib w (n - 1 + 1) := by
  rw [insertRank_eq w rank pos hn hr, nib_splice (by omega) (by omega) (by omega)
    (by omega) (by omega) (by omega), nib_shiftLeft (by omega), nib_ofNat _ hp]
  rcases Nat.lt_trichotomy n rank with h1 | rfl | h1
  · simp [h1, show n + 1 ≤ rank by omega]
  · simp [show ¬ n + 1 ≤ n by omega]
  · simp [show ¬ n + 1 ≤ rank by omega, show ¬ n < rank by omega, show ¬ n = rank by omega,
      show ¬ n < rank + 1 by omega, show ¬ n - rank = 0 by omega,
      show n - (rank + 1) + (rank + 1) = n - 1 + 1 by omega]

/-- in the shape of `List.getElem_eraseIdx` -/
theorem nib_deleteRank (w : W) (rank n : Nat) (hr : rank < cnk w) (h : n + 1 < cnk w) :
    nib (deleteRank w rank) (n + 1) = if n < rank then nib w (n + 1) else nib w (n + 1 + 1) := by
  have hc := cnk_lt w
  rw [deleteRank_eq w rank hr, nib_splice (by omega) (by omega) (by omega)
    (by omega) (by omega) (by simp only [keySliceLength]; omega), nib_zero, Nat.or_zero]
  by_cases h1 : n < rank
  · simp [h1, show n + 1 ≤ rank by omega]
  · simp [h1, show ¬ n + 1 ≤ rank by omega, show n - rank + (rank + 2) = n + 1 + 1 by omega]

theorem length_toList (w : W) : (toList w).length = cnk w := by simp [toList]

theorem getElem_toList (w : W) (n : Nat) (h : n < (toList w).length) :
    (toList w)[n] = nib w (n + 1) := by
  simp [toList, indexOfRank_eq_nib]

theorem indexOfRank_eq (w : W) (r : Nat) (hr : r < cnk w) :
    (toList w)[r]? = some (indexOfRank w r) := by
  simp [toList, hr]

theorem toList_eq_of_nib {w : W} {l : List Nat} (hc : cnk w = l.length)
    (h : ∀ n (hn : n < l.length), nib w (n + 1) = l[n]) : toList w = l := by
  apply List.ext_getElem
  · rw [length_toList, hc]
  · intro n _ h2
    rw [getElem_toList, h n h2]

theorem insertRank_spec (w : W) (rank pos : Nat) (hv : Valid w) (hn : cnk w < 15)
    (hr : rank ≤ cnk w) (hp : pos < 15) (hfresh : pos ∉ toList w) :
    toList (insertRank w rank pos) = (toList w).insertIdx rank pos ∧
    cnk (insertRank w rank pos) = cnk w + 1 ∧ Valid (insertRank w rank pos) := by
  have hc : cnk (insertRank w rank pos) = cnk w + 1 := by
    rw [insertRank_eq w rank pos hn hr, cnk_splice (by omega)]
  have hr' : rank ≤ (toList w).length := by rw [length_toList]; exact hr
  have hlen : ((toList w).insertIdx rank pos).length = cnk w + 1 := by
    rw [List.length_insertIdx_of_le_length hr', length_toList]
  have hl : toList (insertRank w rank pos) = (toList w).insertIdx rank pos := by
    apply toList_eq_of_nib (hc.trans hlen.symm)
    intro n h
    rw [nib_insertRank w rank pos n hn hr (by omega) (by omega)]
    simp only [List.getElem_insertIdx, getElem_toList, dite_eq_ite]
  refine ⟨hl, hc, by omega, ?_, ?_⟩
  · rw [hl, (List.perm_insertIdx pos (toList w) hr').nodup_iff, List.nodup_cons]
    exact ⟨hfresh, hv.2.1⟩
  · intro s hs
    rw [hl, List.mem_insertIdx hr'] at hs
    rcases hs with rfl | hs
    · exact hp
    · exact hv.2.2 s hs

theorem deleteRank_spec (w : W) (rank : Nat) (hv : Valid w) (hr : rank < cnk w) :
    toList (deleteRank w rank) = (toList w).eraseIdx rank ∧
    cnk (deleteRank w rank) = cnk w - 1 ∧ Valid (deleteRank w rank) := by
  have hc : cnk (deleteRank w rank) = cnk w - 1 := by
    rw [deleteRank_eq w rank hr, cnk_splice (by have := cnk_lt w; omega)]
  have hlen : ((toList w).eraseIdx rank).length = cnk w - 1 := by
    rw [List.length_eraseIdx_of_lt (by rw [length_toList]; exact hr), length_toList]
  have hl : toList (deleteRank w rank) = (toList w).eraseIdx rank := by
    apply toList_eq_of_nib (hc.trans hlen.symm)
    intro n h
    rw [nib_deleteRank w rank n hr (by omega)]
    simp only [List.getElem_eraseIdx, getElem_toList, dite_eq_ite]
  refine ⟨hl, hc, by have := hv.1; omega, ?_, ?_⟩
  · rw [hl]; exact hv.2.1.sublist (List.eraseIdx_sublist _ _)
  · intro s hs
    rw [hl] at hs
    exact hv.2.2 s (List.mem_of_mem_eraseIdx hs)

theorem emptySlot_of_empty (w : W) (h : cnk w = 0) : getEmptySlot w = 0 := by
  simp [getEmptySlot, h]

theorem emptySlot_fresh (w : W) (_hv : Valid w) (hn : cnk w < 15) :
    getEmptySlot w < 15 ∧ getEmptySlot w ∉ toList w := by
  unfold getEmptySlot
  by_cases h0 : cnk w = 0
  · simp [h0, toList]
  · have h' : (cnk w == 0) = false := by simpa using h0
    simp only [h', Bool.false_eq_true, if_false]
    have hu : usedSlots w = toList w := rfl
    rw [hu]
    cases hf : (List.range 15).find? (fun i => !(toList w).contains i) with
    | some i =>
      have h1 := List.find?_some hf
      have h2 := List.mem_of_find?_eq_some hf
      simp at h1 h2
      exact ⟨h2, h1⟩
    | none =>
      -- all fifteen slots are listed, but the list is shorter
      have hsub : List.range 15 ⊆ toList w := fun x hx => by
        simpa using List.find?_eq_none.1 hf x hx
      have := List.Nodup.length_le_of_subset List.nodup_range hsub
      rw [length_toList, List.length_range] at this
      omega

theorem splitDest_identity (n : Nat) (hn : n ≤ 15) :
    toList (splitDest n) = List.range n ∧ Valid (splitDest n) := by
  have key : ∀ m : Fin 16, toList (splitDest m.val) = List.range m.val ∧ Valid (splitDest m.val) := by
    decide
  exact key ⟨n, by omega⟩

def bodyOf (l : List Nat) : W := l.foldr (fun s (b : W) => (b ||| BitVec.ofNat 64 s) <<< 4) 0#64

theorem nib_bodyOf_zero (l : List Nat) : nib (bodyOf l) 0 = 0 := by
  cases l with
  | nil => exact nib_zero 0
  | cons s t =>
    show nib ((bodyOf t ||| BitVec.ofNat 64 s) <<< (4 * 1)) 0 = 0
    rw [nib_shiftLeft (by omega), if_pos (by omega)]

theorem nib_bodyOf_succ (l : List Nat) (hs : ∀ s ∈ l, s < 16) (n : Nat) (hn : n < 15) :
    nib (bodyOf l) (n + 1) = l[n]?.getD 0 := by
  induction l generalizing n with
  | nil => simp [bodyOf, nib_zero]
  | cons s t ih =>
    show nib ((bodyOf t ||| BitVec.ofNat 64 s) <<< (4 * 1)) (n + 1) = _
    rw [nib_shiftLeft (by omega), if_neg (by omega), Nat.add_sub_cancel, nib_or,
      nib_ofNat n (hs s List.mem_cons_self)]
    cases n with
    | zero => rw [nib_bodyOf_zero, if_pos rfl, Nat.zero_or]; rfl
    | succ m =>
      rw [ih (fun x hx => hs x (List.mem_cons_of_mem _ hx)) m (by omega), if_neg (by omega),
        Nat.or_zero]
      rfl

theorem ofList_toList (l : List Nat) (hl : l.length ≤ 15) (hs : ∀ s ∈ l, s < 15) :
    toList (ofList l) = l := by
  have hs16 : ∀ s ∈ l, s < 16 := fun s h => Nat.lt_of_lt_of_le (hs s h) (by omega)
  have hof : ofList l = bodyOf l ||| BitVec.ofNat 64 l.length := by
    unfold ofList bodyOf
    rw [List.foldl_reverse]
  apply toList_eq_of_nib
  · rw [cnk_eq_nib, hof, nib_or, nib_bodyOf_zero, nib_ofNat 0 (by omega), if_pos rfl, Nat.zero_or]
  · intro n h
    rw [hof, nib_or, nib_bodyOf_succ l hs16 n (by omega), nib_ofNat _ (by omega), if_neg (by omega),
      Nat.or_zero, List.getElem?_eq_getElem h, Option.getD_some]

end Yak.Perm
