import YakModel.Proofs.NodeSetProofs
/-!
# `NodeSet`: the C04 facts (per-key consistency of a scan)

Two more invariants of the form `ScanPc P Q`: the result so far is ascending and below the current
fence; every key of a fixed set `K` of stored keys in the interval and below the fence is in it.
Keys are never removed in this model, so a key stored when the scan was invoked stays stored
for the whole scan.
-/
namespace Yak.Proto.NodeSet

theorem present_reachFrom {c : Cfg} {s s' : State} (hi : Inv s) (h : ReachFrom c s s') :
    ∀ y, PresentC s.chain y → PresentC s'.chain y :=
  (h.induct (fun s1 => ∀ y, PresentC s.chain y → PresentC s1.chain y) hi (fun _ h => h)
    fun hi1 ih hs y hy => (hs.mono hi1.chain).2 y (ih y hy)).2

/-- `P a b f keys` while the scanner is at a leaf, `f` the fence of that leaf; `Q a b keys` once
    it has returned -/
def ScanPc (P : Nat → Nat → Nat → List Nat → Prop) (Q : Nat → Nat → List Nat → Prop)
    (ch : List Leaf) : SPc → Prop
  | .run a b keys _ cur _ => ∃ L ∈ ch, L.id = cur ∧ P a b L.lo keys
  | .fin a b keys _ => Q a b keys
  | _ => True

section
variable {P : Nat → Nat → Nat → List Nat → Prop} {Q : Nat → Nat → List Nat → Prop}

theorem scanPc_grow {ch ch' : List Leaf} (hg : Grow ch ch') {pc : SPc} (h : ScanPc P Q ch pc) :
    ScanPc P Q ch' pc := by
  cases pc with
  | run a b keys nodes cur ph =>
    obtain ⟨L, hL, hid, h2⟩ := h
    obtain ⟨L', hL', e1, e2, _, _⟩ := hg L hL
    exact ⟨L', hL', by rw [e1, hid], by rw [e2]; exact h2⟩
  | _ => exact h

/-- the hypotheses speak of the present content of a leaf: a validated snapshot is that (`PhInv`) -/
theorem scanPc_step {s s' : State} (hi : Inv s) (hs : Step s s') (t : Nat)
    (henter : ∀ a b L, L ∈ s.chain → Owns s.chain L a → P a b L.lo [])
    (hadv : ∀ a b ks L n, L ∈ s.chain → n ∈ s.chain → L.lo < n.lo →
      (∀ M ∈ s.chain, L.lo < M.lo → n.lo ≤ M.lo) → P a b L.lo ks →
      P a b n.lo (ks ++ L.keys.filter (inRange a b)))
    (hfin : ∀ a b ks L, L ∈ s.chain → (∀ M ∈ s.chain, L.lo < M.lo → b + 1 ≤ M.lo) → P a b L.lo ks →
      Q a b (ks ++ L.keys.filter (inRange a b)))
    (h : ScanPc P Q s.chain (s.sc t)) : ScanPc P Q s'.chain (s'.sc t) := by
  cases hs with
  | writer hw => rw [hw.sc_eq]; exact scanPc_grow ((Step.writer hw).mono hi.chain).1 h
  | scanner t0 pc' hst =>
    show ScanPc P Q s.chain (upd s.sc t0 pc' t)
    rcases upd_cases s.sc t0 pc' t with ⟨ht, e⟩ | ⟨_, e⟩ <;> rw [e]
    · have hsc := hi.scan t
      rw [ht] at h hsc
      generalize s.sc t0 = pc at hst h hsc
      have hc := hi.chain
      cases hst with
      | start => trivial
      | restart => trivial
      | enter a b L hL hown => exact ⟨L, hL, rfl, henter a b L hL hown⟩
      | load => exact h
      | snapshot => exact h
      | finish a b ks ns snap L hL hd hnext =>
        obtain ⟨Lc, hLc, hid, hP⟩ := h
        cases hc.eq_of_id hLc hL hid
        obtain rfl := (hsc.of_run hc hL).2.2.2 rfl rfl hd
        exact hfin a b ks L hL hnext hP
      | advance a b ks ns snap L n hL hd hn hlt hmin =>
        obtain ⟨Lc, hLc, hid, hP⟩ := h
        cases hc.eq_of_id hLc hL hid
        obtain rfl := (hsc.of_run hc hL).2.2.2 rfl rfl hd
        exact ⟨n, hn, rfl, hadv a b ks L n hL hn hlt hmin hP⟩
    · exact h

end

theorem sorted_append_snap {ch : List Leaf} {nid : Nat} (hc : ChainInv ch nid) {L : Leaf} (hL : L ∈ ch)
    {a b : Nat} {ks : List Nat} (h : ks.Pairwise (· < ·) ∧ ∀ k ∈ ks, k < L.lo) :
    (ks ++ L.keys.filter (inRange a b)).Pairwise (· < ·) := by
  rw [List.pairwise_append]
  refine ⟨h.1, (hc.ksorted L hL).filter _, ?_⟩
  intro x hx y hy
  have := h.2 x hx
  have := (hc.keysIn L hL y (List.mem_filter.mp hy).1).1
  omega

theorem sort_reach {c : Cfg} {s : State} (h : Reach c s) (t : Nat) :
    ScanPc (fun _ _ f ks => ks.Pairwise (· < ·) ∧ ∀ k ∈ ks, k < f) (fun _ _ ks => ks.Pairwise (· < ·))
      s.chain (s.sc t) := by
  induction h with
  | init => trivial
  | @step s _ _ h1 hs ih =>
    have hi := inv_reach h1
    refine scanPc_step hi (step?_sound hi.chain hs) t
      (fun a b L _ _ => ⟨.nil, fun k hk => by cases hk⟩) ?_
      (fun a b ks L hL _ h => sorted_append_snap hi.chain hL h) ih
    intro a b ks L n hL hn hlt _ h
    refine ⟨sorted_append_snap hi.chain hL h, fun k hk => ?_⟩
    rcases List.mem_append.mp hk with hk' | hk'
    · have := h.2 k hk'; omega
    · exact (hi.chain.keysIn L hL k (List.mem_filter.mp hk').1).2 n hn hlt

structure StabInv (K : Nat → Prop) (t : Nat) (s : State) : Prop where
  pres : ∀ k, K k → PresentC s.chain k
  pc : ScanPc (fun a b f ks => ∀ k, K k → a ≤ k → k ≤ b → k < f → k ∈ ks)
    (fun a b ks => ∀ k, K k → a ≤ k → k ≤ b → k ∈ ks) s.chain (s.sc t)

theorem stab_validate {K : Nat → Prop} {ch : List Leaf} {nid : Nat} (hc : ChainInv ch nid)
    (hpres : ∀ k, K k → PresentC ch k) {L : Leaf} (hL : L ∈ ch) {a b f' : Nat} {ks : List Nat}
    (hold : ∀ k, K k → a ≤ k → k ≤ b → k < L.lo → k ∈ ks)
    (hf' : ∀ M ∈ ch, L.lo < M.lo → f' ≤ M.lo) :
    ∀ k, K k → a ≤ k → k ≤ b → k < f' → k ∈ ks ++ L.keys.filter (inRange a b) := by
  intro k hK ha hb hf
  by_cases hlt : k < L.lo
  · exact List.mem_append_left _ (hold k hK ha hb hlt)
  · obtain ⟨M, hM, hk⟩ := hpres k hK
    cases stored_in_leaf hc hL hM hk (by omega) hf hf'
    exact List.mem_append_right _ (List.mem_filter.mpr ⟨hk, by simp [inRange, ha, hb]⟩)

theorem stab_step {K : Nat → Prop} {t : Nat} {s s' : State} (hi : Inv s) (h : StabInv K t s)
    (hs : Step s s') : StabInv K t s' :=
  ⟨fun k hk => (hs.mono hi.chain).2 k (h.pres k hk),
    scanPc_step hi hs t (fun a b L _ hown k _ ha _ hlt => by have := hown.1; omega)
      (fun a b ks L n hL _ _ hmin hold => stab_validate hi.chain h.pres hL hold hmin)
      (fun a b ks L hL hnext hold k hK ha hb =>
        stab_validate hi.chain h.pres hL hold hnext k hK ha hb (by omega))
      h.pc⟩

theorem scan_sorted_in_interval {c : Cfg} {s : State} (h : Reach c s) {t a b : Nat}
    {keys : List Nat} {nodes : List NodeRec} (hfin : s.sc t = .fin a b keys nodes) :
    keys.Pairwise (· < ·) ∧ ∀ k ∈ keys, a ≤ k ∧ k ≤ b := by
  have h1 := sort_reach h t
  rw [hfin] at h1
  exact ⟨h1, fun k hk => ⟨((sinv_fin h hfin).sub k hk).1, ((sinv_fin h hfin).sub k hk).2.1⟩⟩

/-- "present" in the state in which the scan has returned; keys are never removed -/
theorem scan_result_was_present {c : Cfg} {s : State} (h : Reach c s) {t a b : Nat}
    {keys : List Nat} {nodes : List NodeRec} (hfin : s.sc t = .fin a b keys nodes) :
    ∀ k ∈ keys, Present s k :=
  fun k hk => ((sinv_fin h hfin).sub k hk).2.2

theorem step?_sStart {c : Cfg} {s0 s1 : State} {t a b : Nat}
    (hstart : step? c s0 (.sStart t a b) = some s1) :
    s1.chain = s0.chain ∧ s1.sc t = .want a b := by
  simp only [step?] at hstart
  split at hstart
  · cases hstart
    exact ⟨rfl, upd_same _ _ _⟩
  · cases hstart

theorem scan_keeps_stable_keys {c : Cfg} {s0 s1 s : State} (h0 : Reach c s0) {t a b : Nat}
    (hstart : step? c s0 (.sStart t a b) = some s1) (hr : ReachFrom c s1 s)
    {keys : List Nat} {nodes : List NodeRec} (hfin : s.sc t = .fin a b keys nodes) {k : Nat}
    (hp : Present s0 k) (ha : a ≤ k) (hb : k ≤ b) : k ∈ keys := by
  obtain ⟨e1, e2⟩ := step?_sStart hstart
  have hi1 : Inv s1 := inv_reach (Reach.step h0 hstart)
  have hst : StabInv (Present s0) t s1 := ⟨fun k hk => by rw [e1]; exact hk, by rw [e2]; trivial⟩
  have := (hr.induct (StabInv (Present s0) t) hi1 hst stab_step).2.pc
  rw [hfin] at this
  exact this k hp ha hb

end Yak.Proto.NodeSet
