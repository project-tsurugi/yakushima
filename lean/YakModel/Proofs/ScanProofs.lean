import YakModel.Proofs.ScanLanding
import YakModel.Proofs.ScanExamples
import YakModel.Proofs.ScanNodes
import YakModel.Proofs.ScanR2L
import YakModel.Proofs.ScanCover
import YakModel.Proofs.ScanFence
/-! Everything about `scan` that the property files C03 and C05 refer to. -/
