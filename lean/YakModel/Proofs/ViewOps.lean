import YakModel.Proofs.TreeBasics
/-!
# `FCore` / `FEmpt` under the point updates the operations perform
-/
namespace Yak.Tree
open Yak

theorem take_parent (p s : List UInt8) (h : s.length = 8) :
    (p ++ s).take ((p ++ s).length - 8) = p := by simp [h]

theorem drop_parent (p s : List UInt8) (h : s.length = 8) :
    (p ++ s).drop ((p ++ s).length - 8) = s := by simp [h]

theorem parent_split (q : List UInt8) (h8 : q.length % 8 = 0) (hq : q ≠ []) :
    q = q.take (q.length - 8) ++ q.drop (q.length - 8) ∧ (q.drop (q.length - 8)).length = 8 ∧
    (q.take (q.length - 8)).length + 8 = q.length := by
  have := List.length_pos_iff.mpr hq
  refine ⟨(List.take_append_drop _ _).symm, ?_, ?_⟩
  · rw [List.length_drop]; omega
  · rw [List.length_take]; omega

theorem not_prefix_append_self (p s : List UInt8) (h : s ≠ []) : ¬ (p ++ s <+: p) := by
  intro hp
  have := hp.length_le
  have := List.length_pos_iff.mpr h
  rw [List.length_append] at *
  omega

theorem ne_nil_of_len8 {s : List UInt8} (h : s.length = 8) : s ≠ [] := by
  intro e; rw [e] at h; cases h

theorem not_prefix_of_slice_ne {p s s' : List UInt8} (hs : s.length = 8) (hs' : s'.length = 8)
    (hne : s' ≠ s) {q : List UInt8} (hq : p ++ s' <+: q) : ¬ (p ++ s <+: q) := by
  intro hq2
  obtain ⟨r1, h1⟩ := hq
  obtain ⟨r2, h2⟩ := hq2
  rw [← h2, List.append_assoc, List.append_assoc, List.append_right_inj] at h1
  exact hne (List.append_inj h1 (by rw [hs, hs'])).1

/-- one layer's chain is replaced; no link is added or lost -/
theorem FCore.update {F : List UInt8 → Option (List Leaf)} (hF : FCore F) {p : List UInt8}
    {ls ls' : List Leaf} (h : F p = some ls) (hc : LayerCore ls')
    (hnew : ∀ e ∈ layerEnts ls', e ∈ layerEnts ls ∨ (e.kt.len ≠ 9 ∧ (p ≠ [] → e.kt.len ≠ 0)))
    (hkeep : ∀ e ∈ layerEnts ls, e.kt.len = 9 → e ∈ layerEnts ls') :
    FCore (upd F p (some ls')) := by
  -- every old layer still finds its link one layer up, in `ls'` if that is the changed chain
  have up : ∀ q y, F q = some y → q ≠ [] →
      ∃ us, upd F p (some ls') (q.take (q.length - 8)) = some us ∧
        ∃ e ∈ layerEnts us, e.kt = ⟨q.drop (q.length - 8), 9⟩ := by
    intro q y hy hne
    obtain ⟨us, hus, e, he, hek⟩ := hF.up _ _ hy hne
    by_cases hpar : q.take (q.length - 8) = p
    · rw [hpar, h] at hus; cases hus
      exact ⟨ls', by rw [hpar]; exact upd_same _ _ _, e, hkeep e he (by rw [hek]), hek⟩
    · exact ⟨us, by rw [upd_other _ _ _ hpar]; exact hus, e, he, hek⟩
  -- `plen`, `core`, `down`, `nz`, `up`, each for the changed layer and then for the others
  refine ⟨upd_isSome hF.root, ?_, ?_, ?_, ?_, ?_⟩ <;> intro q x hq <;>
    rcases upd_some_eq_some.mp hq with ⟨rfl, rfl⟩ | ⟨-, hq'⟩
  · exact hF.plen _ _ h
  · exact hF.plen _ _ hq'
  · exact hc
  · exact hF.core _ _ hq'
  · intro e he h9
    exact upd_isSome ((hnew e he).elim (fun h1 => hF.down _ _ h e h1 h9) (fun h1 => absurd h9 h1.1))
  · exact fun e he h9 => upd_isSome (hF.down _ _ hq' e he h9)
  · exact fun hne e he => (hnew e he).elim (hF.nz _ _ h hne e) (fun h1 => h1.2 hne)
  · exact hF.nz _ _ hq'
  · exact up _ _ h
  · exact up _ _ hq'

theorem FCore.none_below {F : List UInt8 → Option (List Leaf)} (hF : FCore F) {p s : List UInt8}
    {ls : List Leaf} (h : F p = some ls) (hs : s.length = 8)
    (hno : ∀ e ∈ layerEnts ls, e.kt ≠ ⟨s, 9⟩) (q : List UInt8) (hq : p ++ s <+: q) : F q = none := by
  induction hn : q.length using Nat.strongRecOn generalizing q with
  | _ n ih =>
    cases hfq : F q with
    | none => rfl
    | some x =>
      -- the layer one slice up is `p`, which has no such link, or again below `p ++ s`
      exfalso
      have hle := hq.length_le
      rw [List.length_append, hs] at hle
      have hqne : q ≠ [] := by rintro rfl; simp at hle
      obtain ⟨us, hus, e, he, hek⟩ := hF.up _ _ hfq hqne
      have h8 := hF.plen _ _ hfq
      have hp8 := hF.plen _ _ h
      have hlen := (parent_split q h8 hqne).2.2
      by_cases hl : q.length = p.length + 8
      · have := hq.eq_of_length (by rw [List.length_append, hs, hl])
        subst this
        rw [take_parent p s hs, h] at hus; cases hus
        rw [drop_parent p s hs] at hek
        exact hno e he hek
      · have := ih (q.take (q.length - 8)).length (by omega) _
          (List.prefix_of_prefix_length_le hq (List.take_prefix _ _)
            (by rw [List.length_append, hs]; omega)) rfl
        rw [this] at hus; cases hus

theorem layerCore_leaf1 {e : Ent} (hw : e.kt.WF) (hv : e.val = none ↔ e.kt.len = 9) :
    LayerCore [leaf1 e] := by
  refine ⟨⟨rfl, by simp⟩, by simp, ?_⟩
  intro l hl
  rw [List.mem_singleton] at hl; subst hl
  refine ⟨by simp [leaf1], ?_, by simp [leaf1], by simp [leaf1]⟩
  intro x hx
  simp only [leaf1, List.mem_singleton] at hx
  subst hx; exact ⟨hw, hv⟩

theorem layerEnts_leaf1 (e : Ent) : layerEnts [leaf1 e] = [e] := by simp [layerEnts, leaf1]

/-- what `FCore.insertLong` needs of the layers `G` added from `q0` down: `dom` for `plen` and
    disjointness from the old layers, `single` for `core`, `down`, `nz`, `up` for `up` -/
structure FreshOK (G : List UInt8 → Option (List Leaf)) (q0 : List UInt8) : Prop where
  head : (G q0).isSome
  dom : ∀ q ls, G q = some ls → q0 <+: q ∧ (q.length - q0.length) % 8 = 0
  single : ∀ q ls, G q = some ls → ∃ e, ls = [leaf1 e] ∧ e.kt.WF ∧ (e.val = none ↔ e.kt.len = 9) ∧
    e.kt.len ≠ 0 ∧ (e.kt.len = 9 → (G (q ++ e.kt.slice)).isSome)
  up : ∀ q ls, G q = some ls → q ≠ q0 →
    ∃ e', G (q.take (q.length - 8)) = some [leaf1 e'] ∧ e'.kt = ⟨q.drop (q.length - 8), 9⟩

theorem freshLayers_long {q0 : List UInt8} {r : Key} (v : Val) (h : r.length > 8) :
    freshLayers q0 r v =
      ⟨q0, [leaf1 ⟨KT.ofKey r, none⟩]⟩ :: freshLayers (q0 ++ r.take 8) (r.drop 8) v := by
  rw [freshLayers, dif_pos h]

theorem freshLayers_short {q0 : List UInt8} {r : Key} (v : Val) (h : ¬ r.length > 8) :
    freshLayers q0 r v = [⟨q0, [leaf1 ⟨KT.ofKey r, some v⟩]⟩] := by
  rw [freshLayers, dif_neg h]

/-- the entry `insertInto` writes for the key `rest`, and (`subOf`) the layers it adds below it -/
def entOf (rest : Key) (v : Val) : Ent :=
  if rest.length > 8 then ⟨KT.ofKey rest, none⟩ else ⟨KT.ofKey rest, some v⟩

def subOf (p : List UInt8) (rest : Key) (v : Val) : List Layer :=
  if rest.length > 8 then freshLayers (p ++ rest.take 8) (rest.drop 8) v else []

theorem entOf_kt (rest : Key) (v : Val) : (entOf rest v).kt = KT.ofKey rest := by
  unfold entOf; split <;> rfl

theorem entOf_val (rest : Key) (v : Val) : (entOf rest v).val = none ↔ (entOf rest v).kt.len = 9 := by
  unfold entOf
  by_cases h : rest.length > 8
  · simp [h, ofKey_len_long h]
  · simp [h, ofKey_len_ne9 h]

theorem freshLayers_eq (q0 : List UInt8) (r : Key) (v : Val) :
    freshLayers q0 r v = ⟨q0, [leaf1 (entOf r v)]⟩ :: subOf q0 r v := by
  rw [freshLayers]; unfold entOf subOf; split <;> simp [*]

theorem fresh_ok (q0 : List UInt8) (r : Key) (v : Val) (hr : r ≠ []) :
    FreshOK (lay (freshLayers q0 r v)) q0 := by
  have ih : r.length > 8 → FreshOK (lay (subOf q0 r v)) (q0 ++ r.take 8) := fun hl => by
    rw [subOf, if_pos hl]
    exact fresh_ok (q0 ++ r.take 8) (r.drop 8) v (drop8_ne_nil hl)
  have long : ∀ q ls, lay (subOf q0 r v) q = some ls → r.length > 8 := fun q ls h =>
    Decidable.by_contra fun hl => by rw [subOf, if_neg hl] at h; cases h
  rw [freshLayers_eq, funext (lay_cons _ (subOf q0 r v))]
  generalize lay (subOf q0 r v) = G at ih long
  have hne : ∀ q ls, G q = some ls → q ≠ q0 := by
    intro q ls h e; subst e
    exact not_prefix_append_self q _ (ne_nil_of_len8 (take8_len (long _ _ h))) ((ih (long _ _ h)).dom _ _ h).1
  -- `dom`, `single`, `up`, each for the head layer `q0` and then for the layers below it
  refine ⟨by simp, ?_, ?_, ?_⟩ <;> intro q ls h <;> by_cases e : q = q0
  · exact ⟨e ▸ List.prefix_refl _, by simp [e]⟩
  · simp only [e, ↓reduceIte] at h
    have hl := long _ _ h
    obtain ⟨h1, h2⟩ := (ih hl).dom _ _ h
    refine ⟨(List.prefix_append _ _).trans h1, ?_⟩
    have := h1.length_le
    rw [List.length_append, List.length_take] at this h2
    omega
  · subst e
    simp only [↓reduceIte] at h
    refine ⟨entOf r v, (Option.some.inj h).symm, entOf_kt r v ▸ KT.ofKey_wf r, entOf_val r v, ?_, ?_⟩ <;>
      rw [entOf_kt]
    · exact fun h0 => hr (ofKey_len_zero h0)
    · intro h9
      have hl : r.length > 8 := Decidable.by_contra fun hl => ofKey_len_ne9 hl h9
      rw [ofKey_slice_long hl, if_neg (by simpa using ne_nil_of_len8 (take8_len hl))]
      exact (ih hl).head
  · simp only [e, ↓reduceIte] at h
    obtain ⟨e', h1, h2, h3, h4, h5⟩ := (ih (long _ _ h)).single _ _ h
    refine ⟨e', h1, h2, h3, h4, fun h9 => ?_⟩
    obtain ⟨y, hy⟩ := Option.isSome_iff_exists.mp (h5 h9)
    rw [if_neg (hne _ _ hy), hy]; rfl
  · exact fun hq => absurd e hq
  · intro _
    simp only [e, ↓reduceIte] at h
    have hl := long _ _ h
    by_cases e2 : q = q0 ++ r.take 8
    · subst e2
      have h8 : (r.take 8).length = 8 := by rw [List.length_take]; omega
      exact ⟨entOf r v, by rw [take_parent _ _ h8, if_pos rfl],
        by rw [drop_parent _ _ h8, entOf_kt, ofKey_long hl]⟩
    · obtain ⟨e', h1, h2⟩ := (ih hl).up _ _ h e2
      exact ⟨e', by rw [if_neg (hne _ _ h1)]; exact h1, h2⟩
termination_by r.length
decreasing_by
  simp only [List.length_drop]; omega

theorem fresh_nodup (q0 : List UInt8) (r : Key) (v : Val) :
    ((freshLayers q0 r v).map (·.pfx)).Nodup := by
  by_cases hl : r.length > 8
  · rw [freshLayers_long v hl, List.map_cons, List.nodup_cons]
    refine ⟨?_, fresh_nodup _ _ v⟩
    intro hm
    rw [mem_pfx_iff, ← lay_isSome] at hm
    obtain ⟨y, hy⟩ := Option.isSome_iff_exists.mp hm
    exact not_prefix_append_self q0 _ (ne_nil_of_len8 (take8_len hl)) ((fresh_ok _ _ v (drop8_ne_nil hl)).dom _ _ hy).1
  · rw [freshLayers_short v hl]; simp
termination_by r.length
decreasing_by
  simp only [List.length_drop]; omega

/-- a link and the fresh chain below it are added -/
theorem FCore.insertLong {F G : List UInt8 → Option (List Leaf)} (hF : FCore F) {p s : List UInt8}
    {ls ls' : List Leaf} {e : Ent} (h : F p = some ls) (hc : LayerCore ls') (hs : s.length = 8)
    (he : e.kt = ⟨s, 9⟩) (hents : ∀ x, x ∈ layerEnts ls' ↔ x = e ∨ x ∈ layerEnts ls)
    (hG : FreshOK G (p ++ s)) (hdisj : ∀ q, p ++ s <+: q → F q = none) :
    FCore (fun q => if q = p then some ls' else (F q).or (G q)) := by
  have hGp : ∀ q x, G q = some x → q ≠ p ∧ F q = none := by
    intro q x hq
    have := (hG.dom _ _ hq).1
    exact ⟨by rintro rfl; exact not_prefix_append_self _ _ (ne_nil_of_len8 hs) this, hdisj q this⟩
  generalize hF' : (fun q => if q = p then some ls' else (F q).or (G q)) = F'
  have atp : F' p = some ls' := by subst hF'; exact if_pos rfl
  have ofF : ∀ q x, q ≠ p → F q = some x → F' q = some x := by
    intro q x hq hx; subst hF'; simp [hq, hx]
  have ofG : ∀ q x, G q = some x → F' q = some x := by
    intro q x hx; subst hF'; simp [hGp q x hx, hx]
  have get : ∀ q x, F' q = some x →
      (q = p ∧ x = ls') ∨ (q ≠ p ∧ F q = some x) ∨ (q ≠ p ∧ G q = some x) := by
    intro q x hq
    subst hF'
    by_cases e : q = p
    · simp only [e, ↓reduceIte, Option.some.injEq] at hq; exact Or.inl ⟨e, hq.symm⟩
    · simp only [e, ↓reduceIte, Option.or_eq_some_iff] at hq
      exact Or.inr (hq.imp (fun h => ⟨e, h⟩) (fun h => ⟨e, h.2⟩))
  have someF : ∀ x, (F x).isSome → (F' x).isSome := by
    intro x hx
    obtain ⟨y, hy⟩ := Option.isSome_iff_exists.mp hx
    by_cases e : x = p
    · rw [e, atp]; rfl
    · rw [ofF x y e hy]; rfl
  have someG : ∀ x, (G x).isSome → (F' x).isSome := by
    intro x hx
    obtain ⟨y, hy⟩ := Option.isSome_iff_exists.mp hx
    rw [ofG x y hy]; rfl
  have up : ∀ q y, F q = some y → q ≠ [] → ∃ us, F' (q.take (q.length - 8)) = some us ∧
      ∃ e ∈ layerEnts us, e.kt = ⟨q.drop (q.length - 8), 9⟩ := by
    intro q y hy hne
    obtain ⟨us, hus, e', he', hek⟩ := hF.up _ _ hy hne
    by_cases hpar : q.take (q.length - 8) = p
    · rw [hpar, h] at hus; cases hus
      exact ⟨ls', by rw [hpar, atp], e', (hents e').mpr (Or.inr he'), hek⟩
    · exact ⟨us, ofF _ _ hpar hus, e', he', hek⟩
  -- `plen`, `core`, `down`, `nz`, `up`, each for the changed layer, an old layer, a fresh layer
  refine ⟨someF _ hF.root, ?_, ?_, ?_, ?_, ?_⟩ <;> intro q x hq <;>
    rcases get q x hq with ⟨rfl, rfl⟩ | ⟨-, hq'⟩ | ⟨-, hq'⟩
  · exact hF.plen _ _ h
  · exact hF.plen _ _ hq'
  · obtain ⟨h1, h2⟩ := hG.dom _ _ hq'
    have := h1.length_le
    have := hF.plen _ _ h
    rw [List.length_append, hs] at *
    omega
  · exact hc
  · exact hF.core _ _ hq'
  · obtain ⟨e', rfl, hw, hv, -⟩ := hG.single _ _ hq'
    exact layerCore_leaf1 hw hv
  · intro e' he' h9
    rcases (hents e').mp he' with rfl | h1
    · rw [he]; exact someG _ hG.head
    · exact someF _ (hF.down _ _ h e' h1 h9)
  · exact fun e' he' h9 => someF _ (hF.down _ _ hq' e' he' h9)
  · obtain ⟨e'', rfl, -, -, -, h5⟩ := hG.single _ _ hq'
    intro e' he' h9
    rw [layerEnts_leaf1, List.mem_singleton] at he'
    subst he'
    exact someG _ (h5 h9)
  · intro hne e' he'
    rcases (hents e').mp he' with rfl | h1
    · rw [he]; simp
    · exact hF.nz _ _ h hne e' h1
  · exact hF.nz _ _ hq'
  · obtain ⟨e'', rfl, -, -, h4, -⟩ := hG.single _ _ hq'
    intro _ e' he'
    rw [layerEnts_leaf1, List.mem_singleton] at he'
    subst he'; exact h4
  · exact up _ _ h
  · exact up _ _ hq'
  · intro _
    by_cases hq0 : q = p ++ s
    · subst hq0
      exact ⟨ls', by rw [take_parent _ _ hs, atp], e, (hents e).mpr (Or.inl rfl),
        by rw [drop_parent _ _ hs]; exact he⟩
    · obtain ⟨e', h1, h2⟩ := hG.up _ _ hq' hq0
      exact ⟨[leaf1 e'], ofG _ _ h1, e', by rw [layerEnts_leaf1]; simp, h2⟩

/-- an emptied layer disappears together with its link -/
theorem FCore.cascade {F : List UInt8 → Option (List Leaf)} (hF : FCore F) {p : List UInt8}
    {ls us us' : List Leaf} (hp : p ≠ []) (h : F p = some ls) (hempty : layerEnts ls = [])
    (hU : F (p.take (p.length - 8)) = some us) (hc : LayerCore us')
    (hsub : ∀ e, e ∈ layerEnts us' ↔ e ∈ layerEnts us ∧ e.kt ≠ ⟨p.drop (p.length - 8), 9⟩) :
    FCore (upd (upd F p none) (p.take (p.length - 8)) (some us')) := by
  obtain ⟨hsplit, hl8, hlen⟩ := parent_split p (hF.plen _ _ h) hp
  generalize p.take (p.length - 8) = up at *
  generalize p.drop (p.length - 8) = sl at *
  have hupne : up ≠ p := fun e => by rw [e] at hlen; omega
  have get : ∀ q x, upd (upd F p none) up (some us') q = some x →
      (q = up ∧ x = us') ∨ (q ≠ up ∧ q ≠ p ∧ F q = some x) := fun q x hq => by
    simpa only [upd_some_eq_some, upd_none_eq_some] using hq
  have keep : ∀ x, (F x).isSome → x ≠ p → (upd (upd F p none) up (some us') x).isSome := by
    intro x hx hxp
    apply upd_isSome
    rw [upd_other _ _ _ hxp]; exact hx
  -- the link of a layer other than `p` is not the removed one, and it is not found in `p`
  have up' : ∀ q y, F q = some y → q ≠ p → q ≠ [] →
      ∃ vs, upd (upd F p none) up (some us') (q.take (q.length - 8)) = some vs ∧
        ∃ e ∈ layerEnts vs, e.kt = ⟨q.drop (q.length - 8), 9⟩ := by
    intro q y hy hqp hne
    obtain ⟨vs, hvs, e, he, hek⟩ := hF.up _ _ hy hne
    by_cases hpar : q.take (q.length - 8) = up
    · rw [hpar, hU] at hvs; cases hvs
      refine ⟨us', by rw [hpar]; exact upd_same _ _ _, e, (hsub e).mpr ⟨he, ?_⟩, hek⟩
      intro ee
      rw [hek] at ee
      injection ee with e1 _
      apply hqp
      rw [(parent_split q (hF.plen _ _ hy) hne).1, hpar, e1]
      exact hsplit.symm
    · have hparp : q.take (q.length - 8) ≠ p := by
        intro ee
        rw [ee, h] at hvs; cases hvs
        rw [hempty] at he; cases he
      exact ⟨vs, by rw [upd_other _ _ _ hpar, upd_other _ _ _ hparp]; exact hvs, e, he, hek⟩
  -- `plen`, `core`, `down`, `nz`, `up`, each for the layer `up` and then for the others
  refine ⟨keep _ hF.root (Ne.symm hp), ?_, ?_, ?_, ?_, ?_⟩ <;> intro q x hq <;>
    rcases get q x hq with ⟨rfl, rfl⟩ | ⟨hq1, hq2, hq'⟩
  · exact hF.plen _ _ hU
  · exact hF.plen _ _ hq'
  · exact hc
  · exact hF.core _ _ hq'
  · intro e he h9
    obtain ⟨he1, he2⟩ := (hsub e).mp he
    apply keep _ (hF.down _ _ hU e he1 h9)
    intro ee
    rw [hsplit] at ee
    apply he2
    rw [← List.append_cancel_left ee, ← h9]
  · intro e he h9
    apply keep _ (hF.down _ _ hq' e he h9)
    intro ee
    rw [hsplit] at ee
    exact hq1 (List.append_inj' ee (by rw [(layerEnts_wf (hF.core _ _ hq') he).1.1, hl8])).1
  · exact fun hne e he => hF.nz _ _ hU hne e ((hsub e).mp he).1
  · exact hF.nz _ _ hq'
  · exact up' _ _ hU hupne
  · exact up' _ _ hq' hq2

def AllFull (ls : List Leaf) : Prop := ∀ l ∈ ls, l.ents ≠ [] ∧ l.deleted = false

theorem AllFull.emptOK {ls : List Leaf} (h : AllFull ls) (r : Bool) : EmptOK r ls := by
  intro l hl
  obtain ⟨h1, h2⟩ := h l hl
  exact ⟨fun e => absurd e h1, fun e => by rw [h2] at e; cases e⟩

theorem AllFull.others {pre post : List Leaf} {leaf : Leaf} (h : AllFull (pre ++ leaf :: post)) :
    AllFull (pre ++ post) := (forall_mem_mid.mp h).2

theorem AllFull.insert {pre post : List Leaf} {leaf : Leaf} (h : AllFull (pre ++ post))
    (h1 : leaf.ents ≠ []) (h2 : leaf.deleted = false) : AllFull (pre ++ leaf :: post) :=
  forall_mem_mid.mpr ⟨⟨h1, h2⟩, h⟩

theorem EmptOK.others_full {r : Bool} {pre post : List Leaf} {leaf : Leaf}
    (h : EmptOK r (pre ++ leaf :: post)) : AllFull (pre ++ post) := by
  intro l hl
  obtain ⟨h1, h2⟩ := (forall_mem_mid.mp h).2 l hl
  -- an empty leaf is the only one of its chain, but `l` and `leaf` are two
  have key : l.ents ≠ [] := by
    intro he
    have hlen := (h1 he).2
    rw [List.length_append, List.length_cons] at hlen
    have := List.length_pos_of_mem hl
    rw [List.length_append] at this
    omega
  exact ⟨key, Bool.eq_false_iff.mpr fun hd => key (h2 hd)⟩

theorem EmptOK.allFull {r : Bool} {pre post : List Leaf} {leaf : Leaf}
    (h : EmptOK r (pre ++ leaf :: post)) (hne : leaf.ents ≠ []) : AllFull (pre ++ leaf :: post) :=
  h.others_full.insert hne (Bool.eq_false_iff.mpr fun hd => hne ((h leaf (by simp)).2 hd))

theorem FEmpt.update {F : List UInt8 → Option (List Leaf)} (hE : FEmpt F) {p : List UInt8}
    {ls' : List Leaf} (h : EmptOK p.isEmpty ls') : FEmpt (upd F p (some ls')) := by
  intro q x hq
  rcases upd_some_eq_some.mp hq with ⟨rfl, rfl⟩ | ⟨-, hq'⟩
  · exact h
  · exact hE _ _ hq'

theorem FEmpt.erase {F : List UInt8 → Option (List Leaf)} (hE : FEmpt F) (p : List UInt8) :
    FEmpt (upd F p none) := fun _ _ hq => hE _ _ (upd_none_eq_some.mp hq).2

theorem FreshOK.emptOK {G : List UInt8 → Option (List Leaf)} {q0 q : List UInt8} {x : List Leaf}
    (hG : FreshOK G q0) (h : G q = some x) (r : Bool) : EmptOK r x := by
  obtain ⟨e, rfl, -⟩ := hG.single _ _ h
  exact AllFull.emptOK (fun l hl => by rw [List.mem_singleton.mp hl]; exact ⟨by simp [leaf1], rfl⟩) r

end Yak.Tree
