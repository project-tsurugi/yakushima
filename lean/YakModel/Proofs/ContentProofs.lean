import YakModel.Proofs.RemoveMain
/-!
# The in-order content: same keys and values as point lookups, strictly ascending
-/
namespace Yak.Tree
open Yak

theorem lexLt_cons (x y : UInt8) (xs ys : List UInt8) :
    lexLt (x :: xs) (y :: ys) = if x < y then true else if x > y then false else lexLt xs ys := rfl

theorem lexLt_append_left (p x y : List UInt8) : lexLt (p ++ x) (p ++ y) = lexLt x y := by
  induction p with
  | nil => rfl
  | cons c p ih =>
    rw [List.cons_append, List.cons_append, lexLt_cons, if_neg (UInt8.lt_irrefl c),
      if_neg (UInt8.lt_irrefl c)]
    exact ih

/-- the order of `a` and `b` is that of their extensions, unless `a` is a prefix of `b` that its
    extension could carry past `b` -/
theorem lexLt_append_of_lt : ∀ (a b r1 r2 : List UInt8), lexLt a b = true →
    r1 = [] ∨ b.length ≤ a.length → lexLt (a ++ r1) (b ++ r2) = true
  | [], [], _, _, h, _ => by simp [lexLt] at h
  | [], _ :: _, _, _, _, hl => by
    rcases hl with rfl | hl
    · rfl
    · simp at hl
  | _ :: _, [], _, _, h, _ => by simp [lexLt] at h
  | x :: xs, y :: ys, r1, r2, h, hl => by
    rw [List.cons_append, List.cons_append, lexLt_cons]
    rw [lexLt_cons] at h
    by_cases h1 : x < y
    · rw [if_pos h1]
    · rw [if_neg h1] at h ⊢
      by_cases h2 : x > y
      · rw [if_pos h2] at h; cases h
      · rw [if_neg h2] at h ⊢
        exact lexLt_append_of_lt xs ys r1 r2 h (hl.imp_right (by simpa using ·))

theorem lexLt_append_right_of_lt : ∀ (a b r : List UInt8), lexLt a b = true → lexLt a (b ++ r) = true :=
  fun a b r h => a.append_nil ▸ lexLt_append_of_lt a b [] r h (Or.inl rfl)

theorem lexLt_append_both : ∀ (a b r1 r2 : List UInt8), lexLt a b = true → b.length ≤ a.length →
    lexLt (a ++ r1) (b ++ r2) = true :=
  fun a b r1 r2 h hl => lexLt_append_of_lt a b r1 r2 h (Or.inr hl)

theorem lexLt_append_self : ∀ (a r : List UInt8), r ≠ [] → lexLt a (a ++ r) = true
  | [], [], h => absurd rfl h
  | [], _ :: _, _ => rfl
  | x :: xs, r, h => by
    rw [List.cons_append, lexLt_cons, if_neg (UInt8.lt_irrefl x), if_neg (UInt8.lt_irrefl x)]
    exact lexLt_append_self xs r h

theorem bytes_len_of_short {k : KT} (hw : k.WF) (h : k.len ≤ 8) : k.bytes.length = k.len := by
  unfold KT.bytes
  have := hw.1
  simp only [List.length_take, Nat.min_def]
  split <;> split <;> omega

theorem ofKey_bytes {k : KT} (hw : k.WF) (h : k.len ≤ 8) : KT.ofKey k.bytes = k := by
  have hl := bytes_len_of_short hw h
  have hb : k.bytes = k.slice.take k.len := by
    unfold KT.bytes
    have : Nat.min k.len 8 = k.len := Nat.min_eq_left h
    rw [this]
  rw [ofKey_short (by omega), hl]
  have : padTo 8 k.bytes = k.slice := by
    unfold padTo
    rw [List.take_of_length_le (by omega), hl, hb, ← hw.2.2, List.take_append_drop]
  rw [this]

theorem bytes_of_link {k : KT} (hw : k.WF) (h : k.len = 9) : k.bytes = k.slice := by
  unfold KT.bytes
  rw [h]
  exact List.take_of_length_le (by rw [hw.1]; decide)

theorem bytes_ofKey_short {r : Key} (h : ¬ r.length > 8) : (KT.ofKey r).bytes = r := by
  rw [bytes_ofKey, List.take_of_length_le (by omega)]

theorem len_le8_of_val {e : Ent} {v : Val} (hw : e.kt.WF) (hv : e.val = none ↔ e.kt.len = 9)
    (hval : e.val = some v) : e.kt.len ≤ 8 := by
  have : e.kt.len ≠ 9 := fun h => by rw [hv.mpr h] at hval; cases hval
  have := hw.2.1; omega

/-! ### depth of a layer is bounded by the number of layers -/

/-- a layer at depth `d` has `d + 1` distinct ancestors (itself included) in the storage -/
theorem ancestors {F : List UInt8 → Option (List Leaf)} (hF : FCore F) :
    ∀ (d : Nat) (p : List UInt8), p.length = 8 * d → (F p).isSome →
    ∃ l : List (List UInt8), l.Nodup ∧ l.length = d + 1 ∧ ∀ a ∈ l, (F a).isSome ∧ a.length ≤ p.length
  | 0, p, _, hs => ⟨[p], by simp, rfl, by simp [hs]⟩
  | d + 1, p, hp, hs => by
    obtain ⟨ls, hx⟩ := Option.isSome_iff_exists.mp hs
    have hpne : p ≠ [] := by intro e; rw [e] at hp; simp at hp
    obtain ⟨us, hus, _⟩ := hF.up _ _ hx hpne
    have hlen : (p.take (p.length - 8)).length = 8 * d := by simp only [List.length_take]; omega
    obtain ⟨l, h1, h2, h3⟩ := ancestors hF d _ hlen (by rw [hus]; rfl)
    refine ⟨p :: l, List.nodup_cons.mpr ⟨fun hm => ?_, h1⟩, by simp [h2], ?_⟩
    · have := (h3 p hm).2; omega
    · intro a ha
      rcases List.mem_cons.mp ha with rfl | ha
      · exact ⟨hs, Nat.le_refl _⟩
      · exact ⟨(h3 a ha).1, by have := (h3 a ha).2; omega⟩

theorem depth_bound {t : Tree} (hF : FCore (lay t)) {p : List UInt8} (hp : (lay t p).isSome) :
    p.length / 8 + 1 ≤ t.length := by
  obtain ⟨ls, hx⟩ := Option.isSome_iff_exists.mp hp
  have h8 := hF.plen _ _ hx
  obtain ⟨l, h1, h2, h3⟩ := ancestors hF (p.length / 8) p (by omega) hp
  have := h1.length_le_of_subset (l₂ := t.map (·.pfx))
    (fun a ha => mem_pfx_iff.mpr (lay_isSome ▸ (h3 a ha).1))
  rwa [h2, List.length_map] at this

/-- below the root layer no key ends before its first tuple -/
theorem walk_some_ne_nil {F : List UInt8 → Option (List Leaf)} (hF : FCore F) {p s : List UInt8}
    (hs : s.length = 8) {r : Key} {v : Val} (h : walkM (lookF F) (p ++ s) r = some v) : r ≠ [] := by
  rintro rfl
  cases hm : lookF F (p ++ s) (KT.ofKey []) with
  | none => rw [walkM_none hm] at h; cases h
  | some e =>
    obtain ⟨ls, hx, he, hek⟩ := mem_of_lookF hF (KT.ofKey_wf _) hm
    exact hF.nz _ _ hx (by simp [ne_nil_of_len8 hs]) e he (by rw [hek]; rfl)

/-- what one entry contributes to the content -/
def entContent (t : Tree) (fuel : Nat) (p : List UInt8) (e : Ent) : List (Key × Val) :=
  match e.val with
  | some v => [(p ++ e.kt.bytes, v)]
  | none => contentFrom t fuel (p ++ e.kt.slice)

theorem contentFrom_succ {t : Tree} {p : List UInt8} {L : Layer} (hL : findLayer t p = some L) (fuel : Nat) :
    contentFrom t (fuel + 1) p = (layerEnts L.leaves).flatMap (entContent t fuel p) := by
  rw [contentFrom, hL]
  simp only [layerEnts, List.flatMap_assoc]
  rfl

/-- with fuel for every layer below `p` (`depth_bound`), the content of `p` is put together from
    its entries and the content of the layers its links lead to -/
theorem contentFrom_ind {t : Tree} (hF : FCore (lay t)) {motive : Nat → List UInt8 → Prop}
    (step : ∀ (fuel : Nat) (p : List UInt8) (L : Layer), findLayer t p = some L →
      t.length + 1 ≤ fuel + 1 + p.length / 8 →
      (∀ e ∈ layerEnts L.leaves, e.kt.len = 9 → motive fuel (p ++ e.kt.slice)) → motive (fuel + 1) p) :
    ∀ (fuel : Nat) (p : List UInt8), (lay t p).isSome → t.length + 1 ≤ fuel + p.length / 8 →
      motive fuel p := by
  intro fuel
  induction fuel with
  | zero =>
    intro p hp hb
    have := depth_bound hF hp
    omega
  | succ fuel ih =>
    intro p hp hb
    cases hL : findLayer t p with
    | none => rw [lay_isSome, hL] at hp; cases hp
    | some L =>
      have hlay := lay_of_findLayer hL
      refine step fuel p L hL hb (fun e he h9 => ih _ (hF.down _ _ hlay e he h9) ?_)
      have hs8 : e.kt.slice.length = 8 := (layerEnts_wf (hF.core _ _ hlay) he).1.1
      simp only [List.length_append, hs8]; omega

theorem mem_contentFrom {t : Tree} (hF : FCore (lay t)) : ∀ (fuel : Nat) (p : List UInt8),
    (lay t p).isSome → t.length + 1 ≤ fuel + p.length / 8 → ∀ (k : Key) (v : Val),
    ((k, v) ∈ contentFrom t fuel p ↔ ∃ r, k = p ++ r ∧ walkM (lookF (lay t)) p r = some v) := by
  refine contentFrom_ind hF ?_
  intro fuel p L hL _ ih k v
  have hlay := lay_of_findLayer hL
  have hc := hF.core _ _ hlay
  rw [contentFrom_succ hL, List.mem_flatMap]
  constructor
  · rintro ⟨e, he, hke⟩
    obtain ⟨hw, hv⟩ := layerEnts_wf hc he
    have hlook : lookF (lay t) p e.kt = some e := (lookF_some_iff hlay hc hw e).mpr ⟨he, rfl⟩
    unfold entContent at hke
    cases hval : e.val with
    | some v' =>
      rw [hval] at hke
      simp only [List.mem_singleton, Prod.mk.injEq] at hke
      obtain ⟨rfl, rfl⟩ := hke
      have h9 := len_le8_of_val hw hv hval
      refine ⟨e.kt.bytes, rfl, ?_⟩
      have hshort : ¬ e.kt.bytes.length > 8 := by rw [bytes_len_of_short hw h9]; omega
      rw [walkM_short (e := e) (by rw [ofKey_bytes hw h9]; exact hlook) hshort, hval]
    | none =>
      rw [hval] at hke
      have h9 := hv.mp hval
      have hs8 : e.kt.slice.length = 8 := hw.1
      obtain ⟨r', rfl, hwalk⟩ := (ih e he h9 k v).mp hke
      have hr' : r' ≠ [] := walk_some_ne_nil hF hs8 hwalk
      have hlong : (e.kt.slice ++ r').length > 8 := by
        have : r'.length ≠ 0 := fun h => hr' (List.eq_nil_of_length_eq_zero h)
        simp only [List.length_append, hs8]; omega
      refine ⟨e.kt.slice ++ r', by simp, ?_⟩
      have hkt : KT.ofKey (e.kt.slice ++ r') = e.kt := by
        rw [ofKey_long hlong, List.take_left' hs8]
        cases hk : e.kt with
        | mk a b => rw [hk] at h9; simp only at h9; rw [h9]
      rw [walkM_long (e := e) (by rw [hkt]; exact hlook) hlong, List.take_left' hs8,
        List.drop_left' hs8]
      exact hwalk
  · rintro ⟨r, rfl, hwalk⟩
    cases hm : lookF (lay t) p (KT.ofKey r) with
    | none => rw [walkM_none hm] at hwalk; cases hwalk
    | some e =>
      obtain ⟨he, hek⟩ := (lookF_some_iff hlay hc (KT.ofKey_wf r) e).mp hm
      obtain ⟨hw, hv⟩ := layerEnts_wf hc he
      refine ⟨e, he, ?_⟩
      unfold entContent
      by_cases hl : r.length > 8
      · rw [walkM_long hm hl] at hwalk
        have h9 : e.kt.len = 9 := by rw [hek, ofKey_len_long hl]
        rw [hv.mpr h9]
        simp only
        have hsl : e.kt.slice = r.take 8 := by rw [hek, ofKey_slice_long hl]
        refine (ih e he h9 _ v).mpr ⟨r.drop 8, ?_, hsl ▸ hwalk⟩
        rw [hsl, List.append_assoc, List.take_append_drop]
      · rw [walkM_short hm hl] at hwalk
        rw [hwalk]
        simp only [List.mem_singleton, Prod.mk.injEq, and_true]
        rw [hek, bytes_ofKey_short hl]

theorem lookup_iff_content (t : Tree) (h : Inv t) (k : Key) (v : Val) :
    (get t k).val = some v ↔ (k, v) ∈ content t := by
  obtain ⟨_, hF, _⟩ := (inv_iff t).mp h
  unfold get content
  rw [getAt_val, mem_contentFrom hF (t.length + 1) [] hF.root (by simp) k v]
  constructor
  · intro hw; exact ⟨k, rfl, hw⟩
  · rintro ⟨r, hr, hw⟩
    simp only [List.nil_append] at hr
    rw [hr]; exact hw

/-- a value entry contributes the key `p ++ bytes`, a link entry proper extensions of it -/
theorem keys_of_entContent {t : Tree} (hF : FCore (lay t)) {fuel : Nat} {p : List UInt8} {ls : List Leaf}
    (hlay : lay t p = some ls) (hb : t.length + 1 ≤ fuel + 1 + p.length / 8) {e : Ent}
    (he : e ∈ layerEnts ls) {k : Key} {v : Val} (hk : (k, v) ∈ entContent t fuel p e) :
    ∃ r', k = p ++ (e.kt.bytes ++ r') ∧
      ((e.kt.len ≤ 8 ∧ r' = []) ∨ (e.kt.len = 9 ∧ e.kt.bytes.length = 8 ∧ r' ≠ [])) := by
  have hc := hF.core _ _ hlay
  obtain ⟨hw, hv⟩ := layerEnts_wf hc he
  unfold entContent at hk
  cases hval : e.val with
  | some v' =>
    rw [hval] at hk
    simp only [List.mem_singleton, Prod.mk.injEq] at hk
    exact ⟨[], by rw [hk.1]; simp, Or.inl ⟨len_le8_of_val hw hv hval, rfl⟩⟩
  | none =>
    rw [hval] at hk
    have h9 := hv.mp hval
    have hs8 : e.kt.slice.length = 8 := hw.1
    have hdown := hF.down _ _ hlay e he h9
    obtain ⟨r', rfl, hwalk⟩ := (mem_contentFrom hF fuel (p ++ e.kt.slice) hdown (by
      simp only [List.length_append, hs8]; omega) k v).mp hk
    exact ⟨r', by rw [bytes_of_link hw h9, List.append_assoc],
      Or.inr ⟨h9, by rw [bytes_of_link hw h9, hs8], walk_some_ne_nil hF hs8 hwalk⟩⟩

theorem sorted_contentFrom {t : Tree} (hF : FCore (lay t)) : ∀ (fuel : Nat) (p : List UInt8),
    (lay t p).isSome → t.length + 1 ≤ fuel + p.length / 8 →
    (contentFrom t fuel p).Pairwise (fun a b => lexLt a.1 b.1 = true) := by
  refine contentFrom_ind hF ?_
  intro fuel p L hL hb ih
  have hlay := lay_of_findLayer hL
  have hc := hF.core _ _ hlay
  rw [contentFrom_succ hL, List.pairwise_flatMap]
  refine ⟨?_, ?_⟩
  · intro e he
    unfold entContent
    cases hval : e.val with
    | some v' => simp
    | none => exact ih e he ((layerEnts_wf hc he).2.mp hval)
  · refine (layerEnts_sorted hc).imp_of_mem ?_
    intro e1 e2 he1 he2 hlt x hx y hy
    obtain ⟨k1, v1⟩ := x
    obtain ⟨k2, v2⟩ := y
    obtain ⟨r1, rfl, h1⟩ := keys_of_entContent hF hlay hb he1 hx
    obtain ⟨r2, rfl, h2⟩ := keys_of_entContent hF hlay hb he2 hy
    obtain ⟨hw1, _⟩ := layerEnts_wf hc he1
    obtain ⟨hw2, _⟩ := layerEnts_wf hc he2
    show lexLt (p ++ (e1.kt.bytes ++ r1)) (p ++ (e2.kt.bytes ++ r2)) = true
    rw [lexLt_append_left]
    -- `ltSpec`: bytes strictly less, or the same bytes and the shorter tuple first
    unfold KT.ltSpec at hlt
    simp only [Bool.or_eq_true, Bool.and_eq_true, beq_iff_eq, decide_eq_true_eq] at hlt
    rcases hlt with hlt | ⟨hbe, hlen⟩
    · -- extending the right key keeps the order; the left one is extended under a link only,
      -- whose 8 bytes are as many as any tuple has
      rcases h1 with ⟨_, rfl⟩ | ⟨_, hb8, _⟩
      · rw [List.append_nil]
        exact lexLt_append_right_of_lt _ _ _ hlt
      · apply lexLt_append_both _ _ _ _ hlt
        rw [hb8]
        rcases h2 with ⟨h2l, _⟩ | ⟨_, h2b, _⟩
        · rw [bytes_len_of_short hw2 h2l]; exact h2l
        · rw [h2b]; exact Nat.le_refl _
    · -- `e1` is the 8-byte value and `e2` the link: its keys properly extend it
      rw [hbe]
      rcases h2 with ⟨h2l, _⟩ | ⟨h29, h2b, hr2⟩
      · exfalso
        have hl1 : e1.kt.len ≤ 8 := by omega
        have := bytes_len_of_short hw1 hl1
        rw [hbe, bytes_len_of_short hw2 h2l] at this
        omega
      · rcases h1 with ⟨_, rfl⟩ | ⟨h19, _, _⟩
        · rw [List.append_nil]
          exact lexLt_append_self _ _ hr2
        · omega

theorem content_sorted (t : Tree) (h : Inv t) :
    (content t).Pairwise (fun a b => lexLt a.1 b.1 = true) := by
  obtain ⟨_, hF, _⟩ := (inv_iff t).mp h
  unfold content
  exact sorted_contentFrom hF (t.length + 1) [] hF.root (by simp)

end Yak.Tree
