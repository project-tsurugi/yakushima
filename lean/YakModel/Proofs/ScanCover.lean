import YakModel.Proofs.ScanNodes
import YakModel.Proofs.ScanLanding
/-!
# Forward scans record the landing leaf of every absent key of the covered interval (C05)

An insert of an absent key lands in the leaf a `get` of it reports (`get_miss_reports_landing`);
a forward scan that covers the key walks the same path as that `get` and reports the same node.
-/
namespace Yak.Tree
open Yak

/-- the scan did not stop on `max_size` before reaching `k` -/
def Cov (max : Nat) (ts : List (Key × Val)) (k : Key) : Prop :=
  full max ts.length = false ∨ ∃ last, ts.getLast? = some last ∧ lexLt last.1 k = false

/-- the node a missing `get` of `p ++ rest` from layer `p` reports is among `nodes` -/
def Hit (t : Tree) (p : List UInt8) (rest : Key) (nodes : List NodeRef) : Prop :=
  ∀ r, (getAt t p rest).node = some r → r ∈ nodes

theorem Hit.mono {t p rest a b} (h : Hit t p rest a) (hab : a ⊆ b) : Hit t p rest b := fun r hr => hab (h r hr)

theorem Hit.of_miss {t p L rest nodes} (hL : findLayer t p = some L)
    (hg : layerGet L.leaves (KT.ofKey rest) = none)
    (hm : mkRef L (route (KT.ofKey rest) L.leaves) ∈ nodes) : Hit t p rest nodes := by
  intro r hr
  rw [getAt_step hL, hg] at hr
  cases hr
  exact hm

/-- a found tuple: a short key is present (nothing reported), a long one descends -/
theorem Hit.of_found {t p L rest nodes e} (hL : findLayer t p = some L)
    (hg : layerGet L.leaves (KT.ofKey rest) = some e)
    (h : rest.length > 8 → Hit t (p ++ rest.take 8) (rest.drop 8) nodes) : Hit t p rest nodes := by
  intro r hr
  rw [getAt_step hL, hg] at hr
  by_cases hl : rest.length > 8
  · simp only [if_pos hl] at hr
    exact h hl r hr
  · simp only [if_neg hl] at hr
    revert hr
    cases e.val <;> exact fun hr => by cases hr

theorem last_mem_of_full {α : Type} {max : Nat} {A B : List α} {x : α}
    (hA : full max A.length = false) (hf : full max (lim max (A ++ B)).length = true)
    (hl : (lim max (A ++ B)).getLast? = some x) : x ∈ B := by
  obtain ⟨h0, h1⟩ := full_true_iff.mp hf
  rcases full_false_iff.mp hA with h | hlt
  · exact absurd h h0
  · unfold lim at hl h1
    rw [if_neg h0] at hl h1
    rw [List.take_append] at hl h1
    rw [List.take_of_length_le (by omega)] at hl h1
    have hne : List.take (max - A.length) B ≠ [] := by
      intro e
      rw [e, List.append_nil] at h1
      omega
    rw [List.getLast?_append] at hl
    cases hb : (List.take (max - A.length) B).getLast? with
    | none => exact absurd (List.getLast?_eq_none_iff.mp hb) hne
    | some y =>
      rw [hb] at hl
      simp only [Option.some_or, Option.some.injEq] at hl
      subst hl
      exact List.mem_of_mem_take (List.mem_of_getLast? hb)

def LayerCover (t : Tree) (max fuel : Nat) : Prop :=
  ∀ (p : List UInt8) (lk : Key) (le : EP) (rk : Key) (re : EP) (acc : Acc) (rest : Key),
    (lay t p).isSome → t.length ≤ fuel + p.length / 8 → (le = .inf → lk = []) →
    full max acc.tuples.length = false → inLeft lk le rest = true → inRight rk re (p ++ rest) = true →
    Cov max (scanLayer cfgFixed t fuel p lk le rk re max false acc).1.tuples (p ++ rest) →
    Hit t p rest (scanLayer cfgFixed t fuel p lk le rk re max false acc).1.nodes

/-- for a covered key: its tuple among `ents` means the scan went down there and reports the node;
    all of `ents` smaller means the loop runs to its end -/
def EntsCover (t : Tree) (p : List UInt8) (rest : Key) (max : Nat) (ents : List Ent) (r : Acc × Bool × Flow) : Prop :=
  Cov max r.1.tuples (p ++ rest) →
    ((∃ e0 ∈ ents, e0.kt = KT.ofKey rest) → Hit t p rest r.1.nodes) ∧
    ((∀ e ∈ ents, KT.ltSpec e.kt (KT.ofKey rest) = true) → r.2.2 = .cont)

theorem EntsCover.cons_lt {t p rest max e es r} (hlt : KT.ltSpec e.kt (KT.ofKey rest) = true) (h : EntsCover t p rest max es r) :
    EntsCover t p rest max (e :: es) r := by
  intro hcov
  obtain ⟨g1, g2⟩ := h hcov
  refine ⟨fun ⟨e0, h0, hk0⟩ => g1 ⟨e0, ?_, hk0⟩, fun h => g2 (fun x hx => h x (List.mem_cons_of_mem _ hx))⟩
  rcases List.mem_cons.mp h0 with h0 | h0
  · subst h0; exact absurd hk0 (lt_ne hlt)
  · exact h0

theorem scanEnts_cover {t fuel p L max lk le rk re rest} (c : LCtx t fuel p L)
    (IH : ∀ f, f < fuel → LayerCover t max f) (i : Nat)
    (hin : inLeft lk le rest = true) (hir : inRight rk re (p ++ rest) = true) :
    ∀ (ents : List Ent) (acc : Acc) (pushed : Bool),
      (∀ e ∈ ents, e ∈ layerEnts L.leaves) →
      ents.Pairwise (fun a b => KT.ltSpec a.kt b.kt = true) →
      full max acc.tuples.length = false →
      EntsCover t p rest max ents (scanEnts cfgFixed t fuel L i ents lk le rk re max false acc pushed) := by
  intro ents
  induction ents with
  | nil =>
    intro acc pushed _ _ _ _
    rw [scanEnts_nil]
    exact ⟨fun ⟨e0, h, _⟩ => (by cases h), fun _ => rfl⟩
  | cons e es ih =>
    intro acc pushed hsub hsorted hpre
    obtain ⟨he, hsub'⟩ := List.forall_mem_cons.mp hsub
    obtain ⟨hw, hv9⟩ := layerEnts_wf c.core he
    rw [List.pairwise_cons] at hsorted
    obtain ⟨hlater, hsorted'⟩ := hsorted
    have hkw := KT.ofKey_wf rest
    rcases KT.ltSpec_total e.kt (KT.ofKey rest) hw hkw with hlt | heq | hgt
    · -- the entry is below the key's tuple: the scan passes it, or the key is not covered
      obtain ⟨hlb, hkeys⟩ := c.keys_lt he hlt
      have tail : ∀ (acc' : Acc) (pushed' : Bool), full max acc'.tuples.length = false →
          EntsCover t p rest max (e :: es) (scanEnts cfgFixed t fuel L i es lk le rk re max false acc' pushed') :=
        fun acc' pushed' h => (ih acc' pushed' hsub' hsorted' h).cons_lt hlt
      -- a scan that returns here on `max_size` ends with a key below `p ++ rest`
      have stopped : ∀ r : Acc × Bool × Flow, full max r.1.tuples.length = true →
          (∀ last, r.1.tuples.getLast? = some last → lexLt last.1 (p ++ rest) = true) →
          EntsCover t p rest max (e :: es) r := by
        intro r hf hl hcov
        rcases hcov with hcov | ⟨last, h1, h2⟩
        · rw [hf] at hcov; cases hcov
        rw [hl last h1] at h2; cases h2
      cases hval : e.val with
      | some v' =>
        rw [scanEnts_val hval, c.fk e, withinRight_eq, inRight_below hlb hir,
          if_pos rfl]
        split
        · exact tail acc pushed hpre
        · split
          · refine stopped _ ‹_› (fun last h1 => ?_)
            rw [List.getLast?_concat] at h1
            cases h1
            exact hlb
          · exact tail _ true (Bool.eq_false_iff.mpr ‹_›)
      | none =>
        obtain ⟨h9, hb, hs8, hdown, f, rfl, hA⟩ := c.link he hval
        rw [hb] at hlb
        rw [scanEnts_link hval, c.fk e, hb]
        cases hla : linkArgs lk le rk re e.kt.slice (p ++ e.kt.slice) with
        | skip => exact tail acc pushed hpre
        | stop =>
          obtain ⟨hre, hF⟩ := linkArgs_stop hla
          rw [inRight_false_of_le hre hF hlb] at hir
          cases hir
        | go alk ale ark are =>
          simp only
          have hS := scanLayer_tuples (cfg := cfgFixed) c.hF f (p ++ e.kt.slice) alk ale ark are acc hdown hA
            (linkArgs_go hs8 hla).1 hpre
          split
          · rename_i hfull
            refine stopped _ (by rw [recFix_tuples]; exact hfull) (fun last h1 => ?_)
            rw [recFix_tuples, hS] at h1
            rw [hS] at hfull
            exact hkeys last (by
              rw [entContent_link hval]
              exact (List.mem_filter.mp (last_mem_of_full hpre hfull h1)).1)
          · exact tail _ pushed (Bool.eq_false_iff.mpr ‹_›)
    · -- the key's tuple is this entry: a short key is present; for a long key the scan goes down as `get` does
      have hlook : layerGet L.leaves (KT.ofKey rest) = some e := (layerGet_some_iff c.core hkw e).mpr ⟨he, heq⟩
      intro hcov
      refine ⟨fun _ => Hit.of_found c.hL hlook (fun hlong => ?_), fun h => ?_⟩
      · have h9 : e.kt.len = 9 := by rw [heq, ofKey_len_long hlong]
        have hval : e.val = none := hv9.mpr h9
        have hsl : rest.take 8 = e.kt.slice := by rw [heq, ofKey_slice_long hlong]
        obtain ⟨_, hb, hs8, hdown, f, rfl, hA⟩ := c.link he hval
        have hd8 : rest.drop 8 ≠ [] := drop8_ne_nil hlong
        have hrest : e.kt.slice ++ rest.drop 8 = rest := by rw [← hsl, List.take_append_drop]
        have hkeq : p ++ rest = (p ++ e.kt.slice) ++ rest.drop 8 := by rw [List.append_assoc, hrest]
        rw [hsl]
        rw [scanEnts_link hval, c.fk e, hb] at hcov ⊢
        cases hla : linkArgs lk le rk re e.kt.slice (p ++ e.kt.slice) with
        | skip =>
          have := linkArgs_skip hs8 hla (rest.drop 8)
          rw [hrest, hin] at this
          cases this
        | stop =>
          obtain ⟨hre, hF⟩ := linkArgs_stop hla
          rw [inRight_false_of_le hre hF (by rw [hkeq]; exact lexLt_append_self _ _ hd8)] at hir
          cases hir
        | go alk ale ark are =>
          rw [hla] at hcov
          simp only at hcov ⊢
          obtain ⟨h0, -, hgo⟩ := linkArgs_go hs8 hla
          obtain ⟨g1, g2⟩ := hgo (rest.drop 8) hd8
          rw [hrest, hin] at g1
          rw [← hkeq, hir] at g2
          have hsub := IH f (Nat.lt_succ_self f) (p ++ e.kt.slice) alk ale ark are acc (rest.drop 8) hdown hA
            h0 hpre g1 (by rw [← hkeq]; exact g2)
          rw [← hkeq] at hsub
          by_cases hfull : full max (scanLayer cfgFixed t f (p ++ e.kt.slice) alk ale ark are max false acc).1.tuples.length = true
          · rw [if_pos hfull] at hcov ⊢
            rw [recFix_tuples] at hcov
            exact (hsub hcov).mono (recFix_nodes cfgFixed L i pushed _)
          · rw [if_neg hfull]
            exact (hsub (Or.inl (Bool.eq_false_iff.mpr hfull))).mono
              (scanEnts_mono (fun f _ => scanLayer_mono cfgFixed t max false f) L i lk le rk re es _ pushed)
      · have := h e (List.mem_cons_self ..)
        rw [heq, KT.ltSpec_irrefl] at this
        cases this
    · -- the entry is above the key's tuple, and so are the later ones
      intro _
      refine ⟨fun ⟨e0, h0, hk0⟩ => ?_, fun h => ?_⟩
      · exfalso
        rcases List.mem_cons.mp h0 with h0 | h0
        · subst h0; rw [hk0, KT.ltSpec_irrefl] at hgt; cases hgt
        · have := hlater e0 h0
          rw [hk0, lt_asymm hgt] at this
          cases this
      · have := h e (List.mem_cons_self ..)
        rw [lt_asymm hgt] at this
        cases this

theorem scanEnts_cont_room {t fuel p L max i lk le rk re leaf acc} (c : LCtx t fuel p L)
    (hl : leaf ∈ L.leaves) (hpre : full max acc.tuples.length = false)
    (h : (scanEnts cfgFixed t fuel L i leaf.ents lk le rk re max false acc false).2.2 = .cont) :
    full max (scanEnts cfgFixed t fuel L i leaf.ents lk le rk re max false acc false).1.tuples.length = false := by
  have hE := scanEnts_tuples (cfg := cfgFixed) c (fun f hf q alk ale ark are acc' hq hlen h0 hpre' =>
      scanLayer_tuples c.hF f q alk ale ark are acc' hq (by have := c.hA; omega) h0 hpre') i lk le rk re leaf.ents [] acc false
    (by rw [List.append_nil]; exact fun e he => mem_layerEnts.mpr ⟨leaf, hl, he⟩)
    (by rw [List.append_nil]; exact (c.core.2.2 leaf hl).2.2.1) hpre
  exact (hE.1 h).2

theorem leaf_cover {t fuel p L max lk le rk re rest leaf} (c : LCtx t fuel p L)
    (IH : ∀ f, f < fuel → LayerCover t max f)
    (hin : inLeft lk le rest = true) (hir : inRight rk re (p ++ rest) = true)
    (i : Nat) (more : List Leaf) (hl : leaf ∈ L.leaves) (acc : Acc)
    (hpre : full max acc.tuples.length = false) :
    Cov max (scanLeaves cfgFixed t fuel L i (leaf :: more) lk le rk re max false acc).1.tuples (p ++ rest) →
    ((∃ e0 ∈ leaf.ents, e0.kt = KT.ofKey rest) →
      Hit t p rest (scanLeaves cfgFixed t fuel L i (leaf :: more) lk le rk re max false acc).1.nodes) ∧
    ((∀ e ∈ leaf.ents, KT.ltSpec e.kt (KT.ofKey rest) = true) →
      ∃ acc2, full max acc2.tuples.length = false ∧
        scanLeaves cfgFixed t fuel L i (leaf :: more) lk le rk re max false acc =
          scanLeaves cfgFixed t fuel L (i + 1) more lk le rk re max false acc2) := by
  have hN := scanEnts_cover c IH i hin hir leaf.ents acc false
    (fun e he => mem_layerEnts.mpr ⟨leaf, hl, he⟩) (c.core.2.2 leaf hl).2.2.1 hpre
  rw [scanLeaves_cons]
  simp only [Bool.false_eq_true, if_false]
  split
  · rename_i hstop
    intro hcov
    obtain ⟨g1, g2⟩ := hN hcov
    exact ⟨g1, fun h => by rw [g2 h] at hstop; cases hstop⟩
  · have hroom := scanEnts_cont_room c hl hpre ‹_›
    intro _
    exact ⟨fun h => ((hN (Or.inl hroom)).1 h).mono ((noted_nodes L i _ _).trans
        (scanLeaves_mono (fun f _ => scanLayer_mono cfgFixed t max false f) L lk le rk re more (i + 1) _)),
      fun _ => ⟨_, by rw [noted_tuples]; exact hroom, rfl⟩⟩

theorem scanLeaves_cover {t fuel p L max lk le rk re rest pre' leafj post'} (c : LCtx t fuel p L)
    (IH : ∀ f, f < fuel → LayerCover t max f)
    (hin : inLeft lk le rest = true) (hir : inRight rk re (p ++ rest) = true)
    (hr : Routed L.leaves (KT.ofKey rest) pre' leafj post') :
    ∀ (mid : List Leaf) (i : Nat) (acc : Acc), (∀ l ∈ mid, l ∈ pre') → i + mid.length = pre'.length →
      full max acc.tuples.length = false →
      Cov max (scanLeaves cfgFixed t fuel L i (mid ++ leafj :: post') lk le rk re max false acc).1.tuples (p ++ rest) →
      Hit t p rest (scanLeaves cfgFixed t fuel L i (mid ++ leafj :: post') lk le rk re max false acc).1.nodes := by
  have hkw := KT.ofKey_wf rest
  intro mid
  induction mid with
  | nil =>
    intro i acc _ hi hpre hcov
    have hj : leafj ∈ L.leaves := by rw [hr.eq]; exact List.mem_append_right _ (List.mem_cons_self ..)
    cases hg : layerGet L.leaves (KT.ofKey rest) with
    | none =>
      obtain rfl : i = pre'.length := hi
      rw [hr.len]
      exact Hit.of_miss c.hL hg (scanLeaves_records c max false lk le rk re _ _ hj acc)
    | some e0 =>
      obtain ⟨he0, hk0⟩ := (layerGet_some_iff c.core hkw e0).mp hg
      exact (leaf_cover c IH hin hir i post' hj acc hpre hcov).1 ⟨e0, hr.only c.core e0 he0 hk0, hk0⟩
  | cons leaf mid ih =>
    intro i acc hmid hi hpre hcov
    have hmem : leaf ∈ pre' := hmid leaf (List.mem_cons_self ..)
    have hl : leaf ∈ L.leaves := by rw [hr.eq]; exact List.mem_append_left _ hmem
    obtain ⟨acc2, hroom, heq⟩ := (leaf_cover c IH hin hir i (mid ++ leafj :: post') hl acc hpre hcov).2
      (hr.pre_lt c.core hkw leaf hmem)
    rw [List.cons_append, heq] at hcov ⊢
    exact ih (i + 1) acc2 (fun l hl => hmid l (List.mem_cons_of_mem _ hl))
      (by rw [List.length_cons] at hi; omega) hroom hcov

/-- The scan enters the layer at or left of the leaf `get` routes the key to (`start_le_route`); every
    leaf before that one has all its entries below the key, so the walk goes on with room left; at
    `get`'s leaf the tuple is found and the scan descends, or it is missing and the leaf is recorded. -/
theorem scanLayer_cover {t : Tree} (hF : FCore (lay t)) (max : Nat) : ∀ fuel, LayerCover t max fuel := by
  intro fuel
  induction fuel using Nat.strongRecOn with
  | _ fuel ih =>
    intro p lk le rk re acc rest hp hA hle hpre hin hir
    obtain ⟨L, c⟩ := LCtx.of_lay hF hp hA
    obtain ⟨pre', leafj, post', hr⟩ := route_decomp c.core (KT.ofKey_wf rest)
    have hs := start_le_route c.core hle hin hr
    rw [scanLayer_some c.hL]
    generalize route (descentKT lk false) L.leaves = s at hs ⊢
    have hd : L.leaves.drop s = pre'.drop s ++ leafj :: post' := by
      rw [hr.eq]; exact List.drop_append_of_le_length hs
    rw [hd]
    exact scanLeaves_cover c ih hin hir hr (pre'.drop s) s acc
      (fun l hl => List.mem_of_mem_drop hl) (by rw [List.length_drop]; omega) hpre

theorem scan_covers_get (t : Tree) (lk : Key) (le : EP) (rk : Key) (re : EP) (max : Nat) (k : Key)
    (h : Inv t) (ha : scanArgsOk lk le rk re max false = true) (hint : inInterval lk le rk re k = true)
    (hcov : Cov max (scan cfgFixed t lk le rk re max false).tuples k) :
    ∀ r, (get t k).node = some r → r ∈ (scan cfgFixed t lk le rk re max false).nodes := by
  obtain ⟨_, hF, _⟩ := (inv_iff t).mp h
  obtain ⟨L, hL⟩ := findLayer_of_isSome hF.root
  rw [scan_unfold hL lk le rk re max false ha] at hcov ⊢
  rw [inInterval_eq, Bool.and_eq_true] at hint
  by_cases hd : ((L.leaves.getD (route (descentKT (leftKey lk le) false) L.leaves) emptyLeaf).deleted &&
      L.leaves.length == 1) = true
  · -- deleted single root border: it is recorded, and being empty it is where `get` misses
    rw [if_pos hd]
    obtain ⟨l, hlv, hents⟩ := deleted_root h hL hd
    refine Hit.of_miss hL ((layerGet_none_iff (hF.core _ _ (lay_of_findLayer hL)) (KT.ofKey_wf k)).mpr ?_) ?_
    · intro e he
      rw [hlv] at he
      simp [layerEnts, hents] at he
    · rw [hlv]
      exact List.mem_singleton.mpr rfl
  · rw [if_neg hd] at hcov ⊢
    exact scanLayer_cover hF max (t.length + 1) [] (leftKey lk le) le rk re ⟨[], []⟩ k hF.root (by simp)
      (by intro e; rw [e]; rfl) (full_zero max)
      (by rw [inLeft_leftKey]; exact hint.1) hint.2 hcov

/-- `hc` is `Yak.Props.C05.covered` (defined downstream) written out -/
theorem scan_nodes_cover (t : Tree) (lk : Key) (le : EP) (rk : Key) (re : EP) (max : Nat) (k : Key) (v : Val)
    (h : Inv t) (ha : scanArgsOk lk le rk re max false = true) (hk : (get t k).val = none)
    (hc : (inInterval lk le rk re k &&
      (if max != 0 && (scan cfgFixed t lk le rk re max false).tuples.length ≥ max then
         (match (scan cfgFixed t lk le rk re max false).tuples.getLast? with
          | some (last, _) => !lexLt last k
          | none => false)
       else true)) = true) :
    ∃ r ∈ (scan cfgFixed t lk le rk re max false).nodes, (put t k v false).modified = some (r.pfx, r.idx) ∧
      ∃ L l, findLayer t r.pfx = some L ∧ L.leaves[r.idx]? = some l ∧ r.vins = l.vins ∧ r.vsplit = l.vsplit := by
  rw [Bool.and_eq_true] at hc
  obtain ⟨hint, hcv⟩ := hc
  have hcov : Cov max (scan cfgFixed t lk le rk re max false).tuples k := by
    by_cases hf : (max != 0 && decide ((scan cfgFixed t lk le rk re max false).tuples.length ≥ max)) = true
    · right
      rw [if_pos hf] at hcv
      cases hl : (scan cfgFixed t lk le rk re max false).tuples.getLast? with
      | none => rw [hl] at hcv; cases hcv
      | some last =>
        rw [hl] at hcv
        exact ⟨last, rfl, by simpa using hcv⟩
    · exact Or.inl (Bool.eq_false_iff.mpr hf)
  obtain ⟨r, hg, hrest⟩ := get_miss_reports_landing t k v h hk
  exact ⟨r, scan_covers_get t lk le rk re max k h ha hint hcov r hg, hrest⟩

end Yak.Tree
