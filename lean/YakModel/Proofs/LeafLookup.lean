import YakModel.Proofs.LeafBasics
/-!
Listing or unlisting a slot disturbs only the lookups of the key that slot holds; `abs` reads the
cells of listed slots and nothing else.
-/
namespace Yak.Proto.Leaf

theorem span_loop_eq {α} (f : α → Bool) (l acc : List α) :
    List.span.loop f l acc = (acc.reverse ++ l.takeWhile f, l.dropWhile f) := by
  induction l generalizing acc with
  | nil => simp [List.span.loop]
  | cons a l ih =>
    simp only [List.span.loop, List.takeWhile_cons, List.dropWhile_cons]
    cases f a with
    | true => simp [ih]
    | false => simp

theorem span_eq {α} (f : α → Bool) (l : List α) : l.span f = (l.takeWhile f, l.dropWhile f) := by
  simp [List.span, span_loop_eq]

theorem insertSorted_eq (keys : Slot → Option Key) (p : List Slot) (sl : Slot) (k : Key) :
    ∃ a b, p = a ++ b ∧ insertSorted keys p sl k = a ++ sl :: b := by
  simp only [insertSorted, span_eq]
  refine ⟨_, _, ?_, rfl⟩
  exact (List.takeWhile_append_dropWhile).symm

theorem mem_insertSorted {keys p sl k} (x : Slot) : x ∈ insertSorted keys p sl k ↔ x = sl ∨ x ∈ p := by
  obtain ⟨a, b, h1, h2⟩ := insertSorted_eq keys p sl k
  rw [h2, h1, List.mem_append, List.mem_cons, List.mem_append]
  exact or_left_comm

theorem lookupIn_some {keys p k sl} (h : lookupIn keys p k = some sl) : sl ∈ p ∧ keys sl = some k := by
  refine ⟨List.mem_of_find?_eq_some h, ?_⟩
  have := List.find?_some h
  simpa using this

theorem lookupIn_none {keys p k} : lookupIn keys p k = none ↔ ∀ a ∈ p, keys a ≠ some k := by
  simp [lookupIn, List.find?_eq_none]

theorem lookupIn_congr {keys keys' : Slot → Option Key} {p k} (h : ∀ a ∈ p, keys' a = keys a) :
    lookupIn keys' p k = lookupIn keys p k := by
  induction p with
  | nil => rfl
  | cons a p ih =>
    simp only [lookupIn, List.find?_cons, h a (List.mem_cons_self ..)]
    have := ih (fun x hx => h x (List.mem_cons_of_mem _ hx))
    simp only [lookupIn] at this
    rw [this]

theorem lookupIn_none_subset {keys p p' k} (h : lookupIn keys p k = none) (hs : ∀ a ∈ p', a ∈ p) :
    lookupIn keys p' k = none := by
  rw [lookupIn_none] at *
  exact fun a ha => h a (hs a ha)

theorem lookupIn_of_mem {keys p k sl} (hinj : ∀ a ∈ p, ∀ b ∈ p, keys a = keys b → a = b)
    (hm : sl ∈ p) (hk : keys sl = some k) : lookupIn keys p k = some sl := by
  cases h : lookupIn keys p k with
  | none => exact absurd hk (lookupIn_none.mp h sl hm)
  | some a =>
    obtain ⟨h1, h2⟩ := lookupIn_some h
    rw [hinj a h1 sl hm (h2.trans hk.symm)]

theorem lookupIn_insert_self {keys p sl k} (hk : keys sl = some k) (hn : lookupIn keys p k = none) :
    lookupIn keys (insertSorted keys p sl k) k = some sl := by
  obtain ⟨a, b, h1, h2⟩ := insertSorted_eq keys p sl k
  rw [h2]
  have ha : lookupIn keys a k = none :=
    lookupIn_none_subset hn (fun x hx => by rw [h1]; exact List.mem_append_left _ hx)
  simp only [lookupIn] at ha ⊢
  rw [List.find?_append, ha]
  simp [hk]

theorem lookupIn_insert_other {keys p sl k k'} (hk : keys sl = some k) (hne : k' ≠ k) :
    lookupIn keys (insertSorted keys p sl k) k' = lookupIn keys p k' := by
  obtain ⟨a, b, h1, h2⟩ := insertSorted_eq keys p sl k
  rw [h2, h1]
  simp only [lookupIn, List.find?_append, List.find?_cons, hk]
  have : (some k == some k') = false := by simp [Ne.symm hne]
  rw [this]

theorem lookupIn_filter_other {keys p sl k k'} (hk : keys sl = some k) (hne : k' ≠ k) :
    lookupIn keys (p.filter (· != sl)) k' = lookupIn keys p k' := by
  -- the test `· != sl` only rejects a slot that the search for `k'` rejects anyway
  rw [lookupIn, List.find?_filter]
  congr 1; funext a
  by_cases ha : a = sl
  · subst ha; simp [hk, Ne.symm hne]
  · simp [ha, Bool.beq_eq_decide_eq]

theorem lookupIn_filter_self {keys} {p : List Slot} {sl k} (hinj : ∀ a ∈ p, ∀ b ∈ p, keys a = keys b → a = b)
    (hm : sl ∈ p) (hk : keys sl = some k) : lookupIn keys (p.filter (· != sl)) k = none := by
  rw [lookupIn_none]
  intro a ha hak
  rw [List.mem_filter] at ha
  have := hinj a ha.1 sl hm (hak.trans hk.symm)
  simp [this] at ha

theorem freeSlot_not_mem {s : State} {cap sl} (h : freeSlot s cap = some sl) : sl ∉ s.perm := by
  have := List.find?_some h
  simpa using this

def absOf (keys : Slot → Option Key) (perm : List Slot) (vals : Slot → Option Val) : Spec := fun k =>
  match lookupIn keys perm k with
  | some sl => vals sl
  | none => none

theorem abs_eq (s : State) : abs s = absOf s.keys s.perm s.vals := rfl

variable {keys keys' : Slot → Option Key} {perm : List Slot} {vals vals' : Slot → Option Val}

theorem absOf_congr (hk : ∀ a ∈ perm, keys' a = keys a) (hv : ∀ a ∈ perm, vals' a = vals a) :
    absOf keys' perm vals' = absOf keys perm vals := by
  funext k
  simp only [absOf, lookupIn_congr (k := k) hk]
  cases h : lookupIn keys perm k with
  | none => rfl
  | some sl => exact hv sl (lookupIn_some h).1

/-- update: `x = some v`, clear: `x = none` -/
theorem absOf_stVal {sl k x} (hl : lookupIn keys perm k = some sl) :
    absOf keys perm (upd vals sl x) = fun k' => if k' = k then x else absOf keys perm vals k' := by
  funext k'
  simp only [absOf]
  by_cases hkk : k' = k
  · subst hkk; simp [hl, upd_same]
  · simp only [hkk, if_false]
    cases h : lookupIn keys perm k' with
    | none => rfl
    | some a =>
      have h1 := (lookupIn_some h).2
      have h2 := (lookupIn_some hl).2
      have : a ≠ sl := by
        intro e; subst e; rw [h1] at h2; exact hkk (Option.some.inj h2)
      simp [upd_other _ _ _ _ this]

theorem absOf_insert {sl k v} (hks : keys sl = some k) (hn : lookupIn keys perm k = none)
    (hvs : vals sl = some v) :
    absOf keys (insertSorted keys perm sl k) vals = fun k' => if k' = k then some v else absOf keys perm vals k' := by
  funext k'
  simp only [absOf]
  by_cases hkk : k' = k
  · subst hkk; simp [lookupIn_insert_self hks hn, hvs]
  · simp [hkk, lookupIn_insert_other hks hkk]

theorem absOf_filter {sl k} (hinj : ∀ a ∈ perm, ∀ b ∈ perm, keys a = keys b → a = b)
    (hm : sl ∈ perm) (hks : keys sl = some k) (hvs : vals sl = none) :
    absOf keys (perm.filter (· != sl)) vals = absOf keys perm vals := by
  funext k'
  simp only [absOf]
  by_cases hkk : k' = k
  · subst hkk
    rw [lookupIn_filter_self hinj hm hks, lookupIn_of_mem hinj hm hks]
    exact hvs.symm
  · rw [lookupIn_filter_other hks hkk]

end Yak.Proto.Leaf
