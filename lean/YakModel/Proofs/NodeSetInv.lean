import YakModel.Proofs.NodeSetBasics
/-!
# `NodeSet`: the invariants behind C06 and their frame lemmas

`WInv`: lock discipline of the writers; `CInv`: bookkeeping of completed inserts; `SInv`: what a
scanner has dealt with below its frontier. The exceptions `SInv` admits (a pair stale already, a
writer before its last unlock at work on a collected leaf) are harmless: that unlock bumps a
collected counter.
-/
namespace Yak.Proto.NodeSet

/-- `Present s k` is `PresentC s.chain k` by definition, and is used as such -/
def PresentC (ch : List Leaf) (k : Nat) : Prop := ∃ L ∈ ch, k ∈ L.keys

/-- leaves a writer pc holds locked -/
def WPc.Holds : WPc → Nat → Prop
  | .idle, _ => False
  | .held _ i, x => x = i
  | .published _ i, x => x = i
  | .splitDone _ i j, x => x = i ∨ x = j
  | .splitHalf _ j, x => x = j

structure WInv (ch : List Leaf) (w : Nat → WPc) : Prop where
  locked : ∀ t i, (w t).Holds i → ∃ L ∈ ch, L.id = i ∧ L.locked = true
  mutex : ∀ t1 t2 i, (w t1).Holds i → (w t2).Holds i → t1 = t2
  held : ∀ t k i, w t = .held k i → ∃ L ∈ ch, L.id = i ∧ Owns ch L k ∧ k ∉ L.keys
  pubDirty : ∀ t k i, w t = .published k i → ∃ L ∈ ch, L.id = i ∧ L.dirty = true
  splDirty : ∀ t k i j, w t = .splitDone k i j → i ≠ j ∧ ∃ L ∈ ch, L.id = i ∧ L.dirty = true

structure CInv (ch : List Leaf) (w : Nat → WPc) (comp : List Nat) : Prop where
  present : ∀ k ∈ comp, PresentC ch k
  flightPresent : ∀ t k, (w t).inFlight k → PresentC ch k
  flightNot : ∀ t k, (w t).inFlight k → k ∉ comp
  flightUniq : ∀ t1 t2 k, (w t1).inFlight k → (w t2).inFlight k → t1 = t2

theorem not_present_of_owner {ch : List Leaf} {nid : Nat} (hc : ChainInv ch nid) {L : Leaf}
    (hL : L ∈ ch) {k : Nat} (ho : Owns ch L k) (hk : k ∉ L.keys) : ¬ PresentC ch k := by
  rintro ⟨M, hM, hkM⟩
  have := owner_lo_unique hL hM ho (hc.keysIn M hM k hkM)
  have := hc.eq_of_lo hL hM this
  subst this
  exact hk hkM

theorem WInv.locked_of_holds {ch : List Leaf} {nid : Nat} {w : Nat → WPc} (hw : WInv ch w)
    (hc : ChainInv ch nid) {L : Leaf} (hL : L ∈ ch) {t : Nat} (h : (w t).Holds L.id) :
    L.locked = true := by
  obtain ⟨M, hM, hid, hl⟩ := hw.locked t L.id h
  cases hc.eq_of_id hM hL hid
  exact hl

theorem WInv.held_at {ch : List Leaf} {nid : Nat} {w : Nat → WPc} (hw : WInv ch w)
    (hc : ChainInv ch nid) {L : Leaf} (hL : L ∈ ch) {t k : Nat} (h : w t = .held k L.id) :
    Owns ch L k ∧ k ∉ L.keys := by
  obtain ⟨M, hM, hid, ho⟩ := hw.held t k L.id h
  cases hc.eq_of_id hM hL hid
  exact ho

/-- what `WInv` asks of the chain for a writer at this pc -/
def WOk (ch : List Leaf) : WPc → Prop
  | .idle => True
  | .held k i => ∃ L ∈ ch, L.id = i ∧ L.locked = true ∧ Owns ch L k ∧ k ∉ L.keys
  | .published _ i => ∃ L ∈ ch, L.id = i ∧ L.locked = true ∧ L.dirty = true
  | .splitDone _ i j => i ≠ j ∧ (∃ L ∈ ch, L.id = i ∧ L.locked = true ∧ L.dirty = true) ∧
      ∃ R ∈ ch, R.id = j ∧ R.locked = true
  | .splitHalf _ j => ∃ R ∈ ch, R.id = j ∧ R.locked = true

/-- writer `t` moves to pc `x`, only leaf `i0` changes -/
theorem winv_frame {ch ch' : List Leaf} {w : Nat → WPc} (hw : WInv ch w) (t : Nat) (x : WPc) (i0 : Nat)
    (hkeep : ∀ M ∈ ch, M.id ≠ i0 → M ∈ ch' ∧ ∀ y, Owns ch M y → Owns ch' M y)
    (hoth : ∀ t' i, t' ≠ t → (w t').Holds i → i ≠ i0)
    (hxm : ∀ t' i, t' ≠ t → x.Holds i → ¬ (w t').Holds i)
    (hx : WOk ch' x) : WInv ch' (upd w t x) := by
  refine ⟨?_, ?_, ?_, ?_, ?_⟩
  · intro t' i h
    rcases upd_cases w t x t' with ⟨_, e⟩ | ⟨ht, e⟩ <;> rw [e] at h
    · cases x with
      | idle => exact h.elim
      | held k j => obtain ⟨M, hM, e, hl, _⟩ := hx; exact ⟨M, hM, e.trans (Eq.symm h), hl⟩
      | published k j => obtain ⟨M, hM, e, hl, _⟩ := hx; exact ⟨M, hM, e.trans (Eq.symm h), hl⟩
      | splitDone k j j' =>
        obtain ⟨_, ⟨M, hM, e, hl, _⟩, R, hR, eR, hlR⟩ := hx
        rcases h with h | h
        · exact ⟨M, hM, e.trans h.symm, hl⟩
        · exact ⟨R, hR, eR.trans h.symm, hlR⟩
      | splitHalf k j => obtain ⟨M, hM, e, hl⟩ := hx; exact ⟨M, hM, e.trans (Eq.symm h), hl⟩
    · obtain ⟨L, hL, hid, hl⟩ := hw.locked t' i h
      exact ⟨L, (hkeep L hL (by rw [hid]; exact hoth t' i ht h)).1, hid, hl⟩
  · exact upd_uniq hw.mutex hxm
  · intro t' k i h
    rcases upd_cases w t x t' with ⟨_, e⟩ | ⟨ht, e⟩ <;> rw [e] at h
    · subst h
      obtain ⟨M, hM, e, _, ho⟩ := hx
      exact ⟨M, hM, e, ho⟩
    · obtain ⟨L, hL, hid, ho, hk⟩ := hw.held t' k i h
      have hne : L.id ≠ i0 := by
        rw [hid]; exact hoth t' i ht (by rw [h]; exact rfl)
      exact ⟨L, (hkeep L hL hne).1, hid, (hkeep L hL hne).2 k ho, hk⟩
  · intro t' k i h
    rcases upd_cases w t x t' with ⟨_, e⟩ | ⟨ht, e⟩ <;> rw [e] at h
    · subst h
      obtain ⟨M, hM, e, _, hd⟩ := hx
      exact ⟨M, hM, e, hd⟩
    · obtain ⟨L, hL, hid, hd⟩ := hw.pubDirty t' k i h
      have hne : L.id ≠ i0 := by
        rw [hid]; exact hoth t' i ht (by rw [h]; exact rfl)
      exact ⟨L, (hkeep L hL hne).1, hid, hd⟩
  · intro t' k i j h
    rcases upd_cases w t x t' with ⟨_, e⟩ | ⟨ht, e⟩ <;> rw [e] at h
    · subst h
      obtain ⟨hij, ⟨M, hM, e, _, hd⟩, _⟩ := hx
      exact ⟨hij, M, hM, e, hd⟩
    · obtain ⟨hij, L, hL, hid, hd⟩ := hw.splDirty t' k i j h
      have hne : L.id ≠ i0 := by
        rw [hid]; exact hoth t' i ht (by rw [h]; exact Or.inl rfl)
      exact ⟨hij, L, (hkeep L hL hne).1, hid, hd⟩

/-- writer `t` moves to `x`, `comp'` adds at most its finished key -/
theorem cinv_step {ch ch' : List Leaf} {w : Nat → WPc} {comp comp' : List Nat}
    (hci : CInv ch w comp) (t : Nat) (x : WPc)
    (hpres : ∀ y, PresentC ch y → PresentC ch' y)
    (hx : ∀ k, x.inFlight k → PresentC ch' k ∧ ((w t).inFlight k ∨ ¬ PresentC ch k))
    (hcomp : ∀ k ∈ comp', k ∈ comp ∨ ((w t).inFlight k ∧ ∀ k', ¬ x.inFlight k')) :
    CInv ch' (upd w t x) comp' := by
  -- the key that `x` has in flight is not in flight with another writer
  have hother : ∀ t2 k, t2 ≠ t → x.inFlight k → ¬ (w t2).inFlight k := by
    intro t2 k ht2 h1 h2
    rcases (hx k h1).2 with h | h
    · exact ht2 (hci.flightUniq t2 t k h2 h)
    · exact h (hci.flightPresent t2 k h2)
  refine ⟨?_, ?_, ?_, ?_⟩
  · intro k hk
    rcases hcomp k hk with h | ⟨h, _⟩
    · exact hpres k (hci.present k h)
    · exact hpres k (hci.flightPresent t k h)
  · intro t' k h
    rcases upd_cases w t x t' with ⟨_, e⟩ | ⟨_, e⟩ <;> rw [e] at h
    · exact (hx k h).1
    · exact hpres k (hci.flightPresent t' k h)
  · intro t' k h hk
    rcases upd_cases w t x t' with ⟨_, e⟩ | ⟨ht, e⟩ <;> rw [e] at h
    · rcases hcomp k hk with h' | ⟨_, h'⟩
      · rcases (hx k h).2 with h'' | h''
        · exact hci.flightNot t k h'' h'
        · exact h'' (hci.present k h')
      · exact h' k h
    · rcases hcomp k hk with h' | ⟨h', _⟩
      · exact hci.flightNot t' k h h'
      · exact ht (hci.flightUniq t' t k h h')
  · exact upd_uniq hci.flightUniq hother

/-- leaf `i` is collected: it has a record in `nodes` -/
def RecIn (nodes : List NodeRec) (i : Nat) : Prop := ∃ r ∈ nodes, r.1 = i

/-- `Stale` on a bare chain (`stale_iff`) -/
def StaleC (ch : List Leaf) (nodes : List NodeRec) : Prop :=
  ∃ r ∈ nodes, ∃ L ∈ ch, L.id = r.1 ∧ (L.vins ≠ r.2.1 ∨ L.vsplit ≠ r.2.2)

theorem stale_iff (s : State) (nodes : List NodeRec) : Stale s nodes ↔ StaleC s.chain nodes := by
  simp only [Stale, StaleC, Ne, Prod.mk.injEq, Decidable.not_and_iff_not_or_not]

/-- `f` is the frontier: the fence of the current leaf, `b + 1` after the return.
    `cov`: a leaf below `f` that owns `a` or lies right of its owner (no fence in `(L.lo, a]`) is
    collected, or is the still locked new right sibling (`splitDone`) of a collected leaf.
    `seen`: a stored key of `[a, b]` below `f` is in the result, or in flight on a collected leaf.
    Both unless the collection is stale. -/
structure SInv (ch : List Leaf) (w : Nat → WPc) (a b f : Nat) (keys : List Nat)
    (nodes : List NodeRec) : Prop where
  recs : ∀ r ∈ nodes, ∃ L ∈ ch, L.id = r.1 ∧ r.2.1 ≤ L.vins ∧ r.2.2 ≤ L.vsplit
  cov : ∀ L ∈ ch, L.lo < f → (∀ M ∈ ch, L.lo < M.lo → a < M.lo) →
    RecIn nodes L.id ∨ StaleC ch nodes ∨ ∃ t k i, w t = .splitDone k i L.id ∧ RecIn nodes i
  seen : ∀ L ∈ ch, ∀ k ∈ L.keys, a ≤ k → k ≤ b → k < f →
    k ∈ keys ∨ StaleC ch nodes ∨
      ∃ t i, RecIn nodes i ∧ (w t = .published k i ∨ ∃ j, w t = .splitDone k i j)
  sub : ∀ k ∈ keys, a ≤ k ∧ k ≤ b ∧ PresentC ch k

/-- `snapped` is the whole validation argument: every unlock bumps a counter, so counters equal to
    those loaded before the snapshot, on a leaf not dirty, mean the snapshot is the present content. -/
def PhInv (a b : Nat) (L : Leaf) : Phase → Prop
  | .fresh => True
  | .loaded vi vs => vi ≤ L.vins ∧ vs ≤ L.vsplit
  | .snapped vi vs snap => vi ≤ L.vins ∧ vs ≤ L.vsplit ∧
      (L.vins = vi → L.vsplit = vs → L.dirty = false → snap = L.keys.filter (inRange a b))

def ScInv (ch : List Leaf) (w : Nat → WPc) : SPc → Prop
  | .idle => True
  | .want _ _ => True
  | .run a b keys nodes cur ph => ∃ L ∈ ch, L.id = cur ∧ SInv ch w a b L.lo keys nodes ∧ PhInv a b L ph
  | .fin a b keys nodes => SInv ch w a b (b + 1) keys nodes

/-- every collected pair names a leaf of the chain and is not ahead of its counters (`SInv.recs`) -/
def RecsOk (ch : List Leaf) (nodes : List NodeRec) : Prop :=
  ∀ r ∈ nodes, ∃ L ∈ ch, L.id = r.1 ∧ r.2.1 ≤ L.vins ∧ r.2.2 ≤ L.vsplit

/-- every leaf persists with its id and fence; counters only grow -/
def Grow (ch ch' : List Leaf) : Prop :=
  ∀ M ∈ ch, ∃ M' ∈ ch', M'.id = M.id ∧ M'.lo = M.lo ∧ M.vins ≤ M'.vins ∧ M.vsplit ≤ M'.vsplit

theorem grow_refl (ch : List Leaf) : Grow ch ch :=
  fun M hM => ⟨M, hM, rfl, rfl, Nat.le_refl _, Nat.le_refl _⟩

theorem grow_trans {a b c : List Leaf} (h1 : Grow a b) (h2 : Grow b c) : Grow a c := by
  intro M hM
  obtain ⟨M1, hM1, e1, e2, e3, e4⟩ := h1 M hM
  obtain ⟨M2, hM2, f1, f2, f3, f4⟩ := h2 M1 hM1
  exact ⟨M2, hM2, by rw [f1, e1], by rw [f2, e2], Nat.le_trans e3 f3, Nat.le_trans e4 f4⟩

theorem stale_mono {ch ch' : List Leaf} {nid : Nat} (hc : ChainInv ch nid) {nodes : List NodeRec}
    (hr : RecsOk ch nodes)
    (hg : Grow ch ch') (h : StaleC ch nodes) : StaleC ch' nodes := by
  obtain ⟨r, hrn, L, hL, hid, hne⟩ := h
  obtain ⟨L2, hL2, hid2, h1, h2⟩ := hr r hrn
  have : L2 = L := hc.eq_of_id hL2 hL (by rw [hid, hid2])
  subst this
  obtain ⟨L', hL', e1, _, g1, g2⟩ := hg L2 hL
  exact ⟨r, hrn, L', hL', by rw [e1, hid], by omega⟩

theorem recs_mono {ch ch' : List Leaf} {nodes : List NodeRec}
    (hr : RecsOk ch nodes)
    (hg : Grow ch ch') : RecsOk ch' nodes := by
  intro r hrn
  obtain ⟨L, hL, hid, h1, h2⟩ := hr r hrn
  obtain ⟨L', hL', e1, _, g1, g2⟩ := hg L hL
  exact ⟨L', hL', by rw [e1, hid], Nat.le_trans h1 g1, Nat.le_trans h2 g2⟩

theorem stale_of_bump {ch ch' : List Leaf} {nid : Nat} (hc : ChainInv ch nid) {nodes : List NodeRec}
    (hr : RecsOk ch nodes)
    {L L' : Leaf} (hL : L ∈ ch) (hrec : RecIn nodes L.id) (hL' : L' ∈ ch') (hid : L'.id = L.id)
    (hlt : L.vins < L'.vins) : StaleC ch' nodes := by
  obtain ⟨r, hrn, e⟩ := hrec
  obtain ⟨L2, hL2, hid2, h1, _⟩ := hr r hrn
  have : L2 = L := hc.eq_of_id hL2 hL (by rw [hid2, e])
  subst this
  exact ⟨r, hrn, L', hL', by rw [hid, e], Or.inl (by omega)⟩

theorem grow_setLeaf {ch : List Leaf} {nid : Nat} (hc : ChainInv ch nid) {L L' : Leaf} (hL : L ∈ ch)
    (hid : L'.id = L.id) (hlo : L'.lo = L.lo) (hv : L.vins ≤ L'.vins) (hs : L.vsplit ≤ L'.vsplit) :
    Grow ch (setLeaf ch L') := by
  intro M hM
  rcases hc.eq_or_id_ne hL hM with rfl | h
  · exact ⟨L', mem_setLeaf_self hL hid, hid, hlo, hv, hs⟩
  · exact ⟨M, mem_setLeaf_of_ne hL hid hM h, rfl, rfl, Nat.le_refl _, Nat.le_refl _⟩

theorem Grow.fences {ch ch' : List Leaf} (hg : Grow ch ch') {lo a : Nat}
    (hall : ∀ M' ∈ ch', lo < M'.lo → a < M'.lo) : ∀ M ∈ ch, lo < M.lo → a < M.lo := by
  intro M hM hlt
  obtain ⟨M', hM', _, e, _, _⟩ := hg M hM
  rw [← e]; exact hall M' hM' (by rw [e]; exact hlt)

/-- what `SInv` says of the leaves of `ch` survives a move of writer `t` to `x`, if a witness pc
    that `t` gives up leaves the collection stale -/
theorem SInv.carry {ch ch' : List Leaf} {nid : Nat} {w : Nat → WPc} (hc : ChainInv ch nid)
    (hg : Grow ch ch') (t : Nat) (x : WPc) {a b f : Nat} {keys : List Nat} {nodes : List NodeRec}
    (h : SInv ch w a b f keys nodes)
    (hwit : ∀ k i, (w t = .published k i ∨ ∃ j, w t = .splitDone k i j) → RecIn nodes i →
      StaleC ch' nodes) :
    RecsOk ch' nodes ∧
    (∀ L ∈ ch, L.lo < f → (∀ M ∈ ch, L.lo < M.lo → a < M.lo) →
      RecIn nodes L.id ∨ StaleC ch' nodes ∨
        ∃ t0 k i, upd w t x t0 = .splitDone k i L.id ∧ RecIn nodes i) ∧
    (∀ L ∈ ch, ∀ y ∈ L.keys, a ≤ y → y ≤ b → y < f →
      y ∈ keys ∨ StaleC ch' nodes ∨
        ∃ t0 i, RecIn nodes i ∧ (upd w t x t0 = .published y i ∨ ∃ j, upd w t x t0 = .splitDone y i j)) := by
  have hstale := stale_mono hc h.recs hg
  refine ⟨recs_mono h.recs hg, ?_, ?_⟩
  · intro L hL hf hant
    rcases h.cov L hL hf hant with h1 | h1 | ⟨t0, k, i, h1, h2⟩
    · exact Or.inl h1
    · exact Or.inr (Or.inl (hstale h1))
    · rcases upd_cases w t x t0 with ⟨ht, _⟩ | ⟨_, e⟩
      · exact Or.inr (Or.inl (hwit k i (Or.inr ⟨_, ht ▸ h1⟩) h2))
      · exact Or.inr (Or.inr ⟨t0, k, i, e ▸ h1, h2⟩)
  · intro L hL y hy ha hb hf
    rcases h.seen L hL y hy ha hb hf with h1 | h1 | ⟨t0, i, h1, h2⟩
    · exact Or.inl h1
    · exact Or.inr (Or.inl (hstale h1))
    · rcases upd_cases w t x t0 with ⟨ht, _⟩ | ⟨_, e⟩
      · exact Or.inr (Or.inl (hwit y i (ht ▸ h2) h1))
      · exact Or.inr (Or.inr ⟨t0, i, h1, e ▸ h2⟩)

/-- a key new in `L'` is covered because `L` is, with `t`, now at `published`, as its witness -/
theorem sinv_setLeaf {ch : List Leaf} {nid : Nat} {w : Nat → WPc} (hc : ChainInv ch nid)
    (hw : WInv ch w) {L L' : Leaf} (hL : L ∈ ch) (hid : L'.id = L.id) (hlo : L'.lo = L.lo)
    (hv : L.vins ≤ L'.vins) (hs : L.vsplit ≤ L'.vsplit) (t : Nat) (x : WPc)
    (hkeys : ∀ y ∈ L'.keys, y ∈ L.keys ∨ (Owns ch L y ∧ x = .published y L.id ∧ (w t).Holds L.id))
    (hkeys2 : ∀ y ∈ L.keys, y ∈ L'.keys)
    (hwit : ∀ k i, (w t = .published k i ∨ ∃ j, w t = .splitDone k i j) → i = L.id ∧ L.vins < L'.vins)
    {a b f : Nat} {keys : List Nat} {nodes : List NodeRec}
    (h : SInv ch w a b f keys nodes) : SInv (setLeaf ch L') (upd w t x) a b f keys nodes := by
  have hL'mem : L' ∈ setLeaf ch L' := mem_setLeaf_self hL hid
  have hg := grow_setLeaf hc hL hid hlo hv hs
  obtain ⟨hrecs, hcov, hseen⟩ := h.carry hc hg t x (by
    intro k i hwt hrec
    obtain ⟨rfl, hlt⟩ := hwit k i hwt
    exact stale_of_bump hc h.recs hL hrec hL'mem hid hlt)
  refine ⟨hrecs, ?_, ?_, ?_⟩
  · intro L1 hL1 hf hall
    rcases (mem_setLeaf hL hid).mp hL1 with rfl | ⟨h1, _⟩
    · rw [hid]
      rw [hlo] at hf hall
      exact hcov L hL hf (hg.fences hall)
    · exact hcov L1 h1 hf (hg.fences hall)
  · intro L1 hL1 y hy ha hb hf
    rcases (mem_setLeaf hL hid).mp hL1 with rfl | ⟨h1, _⟩
    · rcases hkeys y hy with hy' | ⟨ho, hx, hh⟩
      · exact hseen L hL y hy' ha hb hf
      · -- a new key: its leaf is covered, and `t` is now its witness
        have hA : ∀ M ∈ ch, L.lo < M.lo → a < M.lo := by
          intro M hM hlt; have := ho.2 M hM hlt; omega
        rcases hcov L hL (by have := ho.1; omega) hA with h1 | h1 | ⟨t0, k, i, h1, _⟩
        · exact Or.inr (Or.inr ⟨t, L.id, h1, Or.inl (by rw [upd_same]; exact hx)⟩)
        · exact Or.inr (Or.inl h1)
        · exfalso
          rcases upd_cases w t x t0 with ⟨_, e⟩ | ⟨ht, e⟩ <;> rw [e] at h1
          · rw [hx] at h1; cases h1
          · exact ht (hw.mutex t0 t L.id (by rw [h1]; exact Or.inr rfl) hh)
    · exact hseen L1 h1 y hy ha hb hf
  · intro y hy
    obtain ⟨h1, h2, M, hM, hyM⟩ := h.sub y hy
    refine ⟨h1, h2, ?_⟩
    rcases hc.eq_or_id_ne hL hM with rfl | hMid
    · exact ⟨L', hL'mem, hkeys2 y hyM⟩
    · exact ⟨M, mem_setLeaf_of_ne hL hid hM hMid, hyM⟩

theorem ph_setLeaf {L L' : Leaf} (hv : L.vins ≤ L'.vins) (hs : L.vsplit ≤ L'.vsplit)
    (hd : L'.dirty = false → (L.dirty = false ∧ L'.keys = L.keys) ∨ L.vins < L'.vins)
    {a b : Nat} {ph : Phase} (h : PhInv a b L ph) : PhInv a b L' ph := by
  cases ph with
  | fresh => trivial
  | loaded vi vs => exact ⟨Nat.le_trans h.1 hv, Nat.le_trans h.2 hs⟩
  | snapped vi vs snap =>
    obtain ⟨h1, h2, h3⟩ := h
    refine ⟨Nat.le_trans h1 hv, Nat.le_trans h2 hs, ?_⟩
    intro e1 e2 e3
    rcases hd e3 with ⟨d, ek⟩ | hlt
    · rw [ek]; exact h3 (Nat.le_antisymm (e1 ▸ hv) h1) (Nat.le_antisymm (e2 ▸ hs) h2) d
    · omega

theorem grow_split {ch : List Leaf} {nid : Nat} (hc : ChainInv ch nid) {L L' R : Leaf} {k : Nat}
    (sp : SplitOf ch nid L L' R k) : Grow ch (insAfter (setLeaf ch L') L.id R) := by
  intro M hM
  rcases hc.eq_or_id_ne sp.hL hM with rfl | h
  · exact ⟨L', (mem_split sp).mpr (Or.inr (Or.inl rfl)), sp.id', sp.lo',
      Nat.le_of_eq sp.vins'.symm, Nat.le_of_eq sp.vsplit'.symm⟩
  · exact ⟨M, (mem_split sp).mpr (Or.inr (Or.inr ⟨hM, h⟩)), rfl, rfl, Nat.le_refl _, Nat.le_refl _⟩

theorem present_split {ch : List Leaf} {nid : Nat} (hc : ChainInv ch nid) {L L' R : Leaf} {k : Nat}
    (sp : SplitOf ch nid L L' R k) :
    ∀ y, PresentC ch y ∨ y = k → PresentC (insAfter (setLeaf ch L') L.id R) y := by
  have hfromL : ∀ y, y ∈ L.keys ∨ y = k → PresentC (insAfter (setLeaf ch L') L.id R) y := by
    intro y hy
    rcases sp.keysAll y hy with h | h
    · exact ⟨L', (mem_split sp).mpr (Or.inr (Or.inl rfl)), h⟩
    · exact ⟨R, (mem_split sp).mpr (Or.inl rfl), h⟩
  rintro y (⟨M, hM, hy⟩ | rfl)
  · rcases hc.eq_or_id_ne sp.hL hM with rfl | h
    · exact hfromL y (Or.inl hy)
    · exact ⟨M, (mem_split sp).mpr (Or.inr (Or.inr ⟨hM, h⟩)), hy⟩
  · exact hfromL y (Or.inr rfl)

/-- if `L` was collected, `R` and `k` have `t`, now at `splitDone`, as their witness -/
theorem sinv_split {ch : List Leaf} {nid : Nat} {w : Nat → WPc} (hc : ChainInv ch nid)
    (hw : WInv ch w) {L L' R : Leaf} {k : Nat} (sp : SplitOf ch nid L L' R k) (hok : Owns ch L k)
    (t : Nat) (hwt : w t = .held k L.id)
    {a b f : Nat} {keys : List Nat} {nodes : List NodeRec}
    (h : SInv ch w a b f keys nodes) :
    SInv (insAfter (setLeaf ch L') L.id R) (upd w t (.splitDone k L.id nid)) a b f keys nodes := by
  have hg := grow_split hc sp
  obtain ⟨hrecs, hcov, hseen⟩ := h.carry hc hg t (.splitDone k L.id nid) (by
    rintro k0 i (e | ⟨j, e⟩) <;> rw [hwt] at e <;> cases e)
  have hLcov : L.lo < f → (∀ M ∈ ch, L.lo < M.lo → a < M.lo) →
      RecIn nodes L.id ∨ StaleC (insAfter (setLeaf ch L') L.id R) nodes := by
    intro hf hA
    rcases hcov L sp.hL hf hA with h1 | h1 | ⟨t0, k0, i, h1, _⟩
    · exact Or.inl h1
    · exact Or.inr h1
    · exfalso
      rcases upd_cases w t (.splitDone k L.id nid) t0 with ⟨_, e⟩ | ⟨ht, e⟩ <;> rw [e] at h1
      · cases h1
        have := hc.idlt L sp.hL
        omega
      · exact ht (hw.mutex t0 t L.id (by rw [h1]; exact Or.inr rfl) (by rw [hwt]; exact rfl))
  refine ⟨hrecs, ?_, ?_, ?_⟩
  · intro L1 hL1 hf hall
    rcases (mem_split sp).mp hL1 with rfl | rfl | ⟨h1, _⟩
    · -- the new leaf: no old fence lies between `L.lo` and its fence
      have hA : ∀ M ∈ ch, L.lo < M.lo → a < M.lo :=
        fun M hM hlt => hg.fences hall M hM (sp.rown.2 M hM hlt)
      rcases hLcov (by have := sp.rlo; omega) hA with h1 | h1
      · exact Or.inr (Or.inr ⟨t, k, L.id, by rw [upd_same, sp.rid], h1⟩)
      · exact Or.inr (Or.inl h1)
    · rw [sp.id']
      rw [sp.lo'] at hf hall
      exact hcov L sp.hL hf (hg.fences hall)
    · exact hcov L1 h1 hf (hg.fences hall)
  · intro L1 hL1 y hy ha hb hf
    have hfromL : y ∈ L.keys ∨ y = k →
        y ∈ keys ∨ StaleC (insAfter (setLeaf ch L') L.id R) nodes ∨
          ∃ t0 i, RecIn nodes i ∧ (upd w t (.splitDone k L.id nid) t0 = .published y i ∨
            ∃ j, upd w t (.splitDone k L.id nid) t0 = .splitDone y i j) := by
      rintro (hyL | rfl)
      · exact hseen L sp.hL y hyL ha hb hf
      · have hA : ∀ M ∈ ch, L.lo < M.lo → a < M.lo := by
          intro M hM hlt; have := hok.2 M hM hlt; omega
        rcases hLcov (by have := hok.1; omega) hA with h1 | h1
        · exact Or.inr (Or.inr ⟨t, L.id, h1, Or.inr ⟨nid, by rw [upd_same]⟩⟩)
        · exact Or.inr (Or.inl h1)
    rcases (mem_split sp).mp hL1 with rfl | rfl | ⟨h1, _⟩
    · exact hfromL (sp.keysR y hy).2
    · exact hfromL (sp.keysL y hy).2
    · exact hseen L1 h1 y hy ha hb hf
  · intro y hy
    obtain ⟨h1, h2, h3⟩ := h.sub y hy
    exact ⟨h1, h2, present_split hc sp y (Or.inl h3)⟩

theorem sinv_enter {ch : List Leaf} {w : Nat → WPc} {L : Leaf} (hL : L ∈ ch) {a b : Nat}
    (ho : Owns ch L a) : SInv ch w a b L.lo [] [] := by
  refine ⟨fun r hr => (by cases hr), ?_, ?_, fun k hk => (by cases hk)⟩
  · intro L1 _ hf hall
    have := hall L hL hf
    have := ho.1
    omega
  · intro L1 _ y _ ha _ hf
    have := ho.1
    omega

theorem stored_in_leaf {ch : List Leaf} {nid : Nat} (hc : ChainInv ch nid) {L M : Leaf}
    (hL : L ∈ ch) (hM : M ∈ ch) {k f' : Nat} (hk : k ∈ M.keys) (hlo : L.lo ≤ k) (hf : k < f')
    (hf' : ∀ M' ∈ ch, L.lo < M'.lo → f' ≤ M'.lo) : M = L := by
  have hown := hc.keysIn M hM k hk
  rcases Nat.lt_trichotomy M.lo L.lo with hlt | heq | hgt
  · have := hown.2 L hL hlt; omega
  · exact hc.eq_of_lo hM hL heq
  · have := hf' M hM hgt; have := hown.1; omega

theorem sinv_validate {ch : List Leaf} {nid : Nat} {w : Nat → WPc} (hc : ChainInv ch nid)
    {L : Leaf} (hL : L ∈ ch) {a b f' : Nat} {keys : List Nat} {nodes : List NodeRec}
    (h : SInv ch w a b L.lo keys nodes) (hf' : ∀ M ∈ ch, L.lo < M.lo → f' ≤ M.lo) :
    SInv ch w a b f' (keys ++ L.keys.filter (inRange a b)) (nodes ++ [(L.id, L.vins, L.vsplit)]) := by
  have hrec : ∀ i, RecIn nodes i → RecIn (nodes ++ [(L.id, L.vins, L.vsplit)]) i := by
    rintro i ⟨r, hr, e⟩
    exact ⟨r, List.mem_append_left _ hr, e⟩
  have hst : StaleC ch nodes → StaleC ch (nodes ++ [(L.id, L.vins, L.vsplit)]) := by
    rintro ⟨r, hr, rest⟩
    exact ⟨r, List.mem_append_left _ hr, rest⟩
  refine ⟨?_, ?_, ?_, ?_⟩
  · intro r hr
    rcases List.mem_append.mp hr with hr' | hr'
    · exact h.recs r hr'
    · cases List.mem_singleton.mp hr'
      exact ⟨L, hL, rfl, Nat.le_refl _, Nat.le_refl _⟩
  · intro L1 hL1 hf hall
    rcases Nat.lt_trichotomy L1.lo L.lo with hlt | heq | hgt
    · rcases h.cov L1 hL1 hlt hall with h1 | h1 | ⟨t0, k0, i, h1, h2⟩
      · exact Or.inl (hrec _ h1)
      · exact Or.inr (Or.inl (hst h1))
      · exact Or.inr (Or.inr ⟨t0, k0, i, h1, hrec _ h2⟩)
    · cases hc.eq_of_lo hL1 hL heq
      exact Or.inl ⟨_, List.mem_append_right _ (List.mem_singleton.mpr rfl), rfl⟩
    · have := hf' L1 hL1 hgt
      omega
  · intro L1 hL1 y hy ha hb hf
    by_cases hyl : y < L.lo
    · rcases h.seen L1 hL1 y hy ha hb hyl with h1 | h1 | ⟨t0, i, h1, h2⟩
      · exact Or.inl (List.mem_append_left _ h1)
      · exact Or.inr (Or.inl (hst h1))
      · exact Or.inr (Or.inr ⟨t0, i, hrec _ h1, h2⟩)
    · cases stored_in_leaf hc hL hL1 hy (by omega) hf hf'
      exact Or.inl (List.mem_append_right _ (List.mem_filter.mpr ⟨hy, by simp [inRange, ha, hb]⟩))
  · intro y hy
    rcases List.mem_append.mp hy with hy' | hy'
    · exact h.sub y hy'
    · rw [List.mem_filter] at hy'
      have hr : a ≤ y ∧ y ≤ b := by simpa [inRange] using hy'.2
      exact ⟨hr.1, hr.2, L, hL, hy'.1⟩

theorem ScInv.of_run {ch : List Leaf} {nid : Nat} {w : Nat → WPc} (hc : ChainInv ch nid) {L : Leaf}
    (hL : L ∈ ch) {a b : Nat} {ks : List Nat} {ns : List NodeRec} {ph : Phase}
    (h : ScInv ch w (.run a b ks ns L.id ph)) : SInv ch w a b L.lo ks ns ∧ PhInv a b L ph := by
  obtain ⟨Lc, hLc, hid, hs, hp⟩ := h
  cases hc.eq_of_id hLc hL hid
  exact ⟨hs, hp⟩

theorem scInv_sstep {ch : List Leaf} {nid : Nat} {w : Nat → WPc} (hc : ChainInv ch nid)
    {pc pc' : SPc} (hst : SStep ch pc pc') (h : ScInv ch w pc) : ScInv ch w pc' := by
  cases hst with
  | start => trivial
  | restart => trivial
  | enter a b L hL hown => exact ⟨L, hL, rfl, sinv_enter hL hown, trivial⟩
  | load a b ks ns ph L hL => exact ⟨L, hL, rfl, (h.of_run hc hL).1, Nat.le_refl _, Nat.le_refl _⟩
  | snapshot a b ks ns vi vs L hL =>
    obtain ⟨hs, hp⟩ := h.of_run hc hL
    exact ⟨L, hL, rfl, hs, hp.1, hp.2, fun _ _ _ => rfl⟩
  | finish a b ks ns snap L hL hd hnext =>
    obtain ⟨hs, hp⟩ := h.of_run hc hL
    obtain rfl := hp.2.2 rfl rfl hd
    exact sinv_validate hc hL hs hnext
  | advance a b ks ns snap L n hL hd hn hlt hmin =>
    obtain ⟨hs, hp⟩ := h.of_run hc hL
    obtain rfl := hp.2.2 rfl rfl hd
    exact ⟨n, hn, rfl, sinv_validate hc hL hs hmin, trivial⟩

end Yak.Proto.NodeSet
