import YakModel.Proto.Epoch
/-!
# The invariant of the epoch reclamation protocol (`Proto/Epoch`)

`Inv cfg`, for the repaired and the unrepaired enter alike. Its core is the **window** of an
active session (enter has returned): `begin ∈ {E - 1, E}`, and `G` and the gc thread's copy `g` of
it are `< begin`.

* Check scan: once it has passed a slot, an active session there has `begin = E`; so at `eInc`
  EVERY active session has `begin = E`, and the window holds again for `E + 1`.
* Min scan: once it has passed a slot, `m ≤ begin` (`E ≤ begin` while `m = ∞`). A session that
  becomes active behind the scan position does so with `begin = E` (that is what the re-check of
  the repaired enter buys; the unrepaired one needs its loaded value to be `E` still, which
  `ReachAdj` grants), and `m ≤ E`; only the scanning thread moves `E`.
* Ghost state: a retired, not yet released `(tag, obj)` has `begin[j] ≤ tag + 1` for every
  `j ∈ witness obj`, all of them active. A release needs `tag < g`; with `g < begin[j] ≤ tag + 1`
  no `j` is left in the witness set (`free_ok`).

`inv_step` reads each event's guard and new state off `step?` and hands them to the frame lemma
for that shape of step: `inv_upd` (one slot rewritten), `inv_glob_step` (no slot touched).
-/
namespace Yak.Proto.Epoch

/-- the value of `G` the gc thread has loaded and is still comparing retire tags with -/
def GPc.g? : GPc → Option Nat
  | .loadG _ => none
  | .cache _ g => some g
  | .pop _ g => some g

@[simp] theorem g?_loadG (j : Nat) : (GPc.loadG j).g? = none := rfl
@[simp] theorem g?_cache (j g : Nat) : (GPc.cache j g).g? = some g := rfl
@[simp] theorem g?_pop (j g : Nat) : (GPc.pop j g).g? = some g := rfl

theorem upd_same {α} (f : Nat → α) (t : Nat) (v : α) : upd f t v t = v := if_pos rfl

theorem upd_other {α} (f : Nat → α) (t : Nat) (v : α) (i : Nat) (h : i ≠ t) : upd f t v i = f i :=
  if_neg h

theorem Slot.items_push (sl : Slot) (x : Nat × Nat) :
    { sl with queue := sl.queue ++ [x] }.items = sl.items ++ [x] :=
  (List.append_assoc ..).symm

def objsOf (slots : Nat → Slot) (k : Nat) : List Nat := ((slots k).items).map Prod.snd

theorem objsOf_upd (slots : Nat → Slot) (i : Nat) (sl : Slot) :
    objsOf (upd slots i sl) = upd (objsOf slots) i (sl.items.map Prod.snd) := by
  funext k
  by_cases hk : k = i
  · rw [hk, objsOf, upd_same, upd_same]
  · rw [objsOf, upd_other _ _ _ _ hk, upd_other _ _ _ _ hk, objsOf]

structure DistinctOn (objs : Nat → List Nat) (freed : List Nat) : Prop where
  nodupSlot : ∀ i, (objs i).Nodup
  disj : ∀ i k o, o ∈ objs i → o ∈ objs k → i = k
  notFreed : ∀ i o, o ∈ objs i → o ∉ freed
  freedNodup : freed.Nodup

/-- Slot `j`'s list becomes `l`, made of objects that were in slot `j` or in no slot; `fr'` gains
    only objects from slot `j`. Dropping, freeing and retiring an object are the three instances. -/
theorem distinct_upd {objs : Nat → List Nat} {fr : List Nat} (h : DistinctOn objs fr) (j : Nat)
    (l fr' : List Nat) (hl : l.Nodup) (hfr' : fr'.Nodup)
    (hmem : ∀ x, x ∈ l → x ∉ fr' ∧ (x ∈ objs j ∨ ∀ k, x ∉ objs k))
    (hfr : ∀ x, x ∈ fr' → x ∈ fr ∨ x ∈ objs j) : DistinctOn (upd objs j l) fr' := by
  have hk : ∀ k x, x ∈ upd objs j l k → (k = j ∧ x ∈ l) ∨ (k ≠ j ∧ x ∈ objs k) := by
    intro k x hx
    by_cases e : k = j
    · rw [e, upd_same] at hx; exact .inl ⟨e, hx⟩
    · rw [upd_other _ _ _ _ e] at hx; exact .inr ⟨e, hx⟩
  have hother : ∀ k x, x ∈ l → k ≠ j → x ∉ objs k := fun k x hx e hxk =>
    (hmem x hx).2.elim (fun hxj => e (h.disj k j x hxk hxj)) (fun hf => hf k hxk)
  refine ⟨fun k => ?_, fun i k x hi hk' => ?_, fun k x hx hf => ?_, hfr'⟩
  · by_cases e : k = j
    · rw [e, upd_same]; exact hl
    · rw [upd_other _ _ _ _ e]; exact h.nodupSlot k
  · rcases hk i x hi with ⟨ei, hi⟩ | ⟨ei, hi⟩ <;> rcases hk k x hk' with ⟨ek, hk'⟩ | ⟨ek, hk'⟩
    · exact ei.trans ek.symm
    · exact absurd hk' (hother k x hi ek)
    · exact absurd hi (hother i x hk' ei)
    · exact h.disj i k x hi hk'
  · rcases hk k x hx with ⟨_, hx⟩ | ⟨e, hx⟩
    · exact (hmem x hx).1 hf
    · exact (hfr x hf).elim (h.notFreed k x hx) fun hxj => e (h.disj k j x hx hxj)

theorem distinct_sub {objs : Nat → List Nat} {fr : List Nat} (h : DistinctOn objs fr)
    (j : Nat) (l : List Nat) (hs : l.Sublist (objs j)) : DistinctOn (upd objs j l) fr :=
  distinct_upd h j l fr ((h.nodupSlot j).sublist hs) h.freedNodup
    (fun x hx => ⟨h.notFreed j x (hs.subset hx), .inl (hs.subset hx)⟩) (fun _ => .inl)

theorem distinct_free {objs : Nat → List Nat} {fr : List Nat} (h : DistinctOn objs fr)
    (j o : Nat) (l : List Nat) (hp : (objs j).Perm (o :: l)) :
    DistinctOn (upd objs j l) (fr ++ [o]) := by
  have hnd := List.nodup_cons.mp (hp.nodup_iff.mp (h.nodupSlot j))
  have hoj : o ∈ objs j := hp.mem_iff.mpr List.mem_cons_self
  have hlj : ∀ x, x ∈ l → x ∈ objs j := fun x hx => hp.mem_iff.mpr (List.mem_cons_of_mem _ hx)
  refine distinct_upd h j l _ hnd.2
    (List.nodup_append.mpr ⟨h.freedNodup, List.pairwise_singleton _ _, fun a ha b hb e => ?_⟩)
    (fun x hx => ⟨fun hf => ?_, .inl (hlj x hx)⟩) (fun x hx => ?_)
  · exact h.notFreed j o hoj (List.mem_singleton.mp hb ▸ e ▸ ha)
  · rcases List.mem_append.mp hf with hf | hf
    · exact h.notFreed j x (hlj x hx) hf
    · exact hnd.1 (List.mem_singleton.mp hf ▸ hx)
  · exact (List.mem_append.mp hx).imp id fun hx => by rw [List.mem_singleton.mp hx]; exact hoj

theorem distinct_retire {objs : Nat → List Nat} {fr : List Nat} (h : DistinctOn objs fr)
    (i obj : Nat) (hfresh : ∀ k, obj ∉ objs k) (hnf : obj ∉ fr) :
    DistinctOn (upd objs i (objs i ++ [obj])) fr :=
  distinct_upd h i _ fr
    (List.nodup_append.mpr ⟨h.nodupSlot i, List.pairwise_singleton _ _,
      fun _ ha _ hb e => hfresh i (List.mem_singleton.mp hb ▸ e ▸ ha)⟩)
    h.freedNodup
    (fun x hx => (List.mem_append.mp hx).elim (fun hx => ⟨h.notFreed i x hx, .inl hx⟩)
      fun hx => List.mem_singleton.mp hx ▸ ⟨hnf, .inr hfresh⟩)
    (fun _ => .inl)

def EpcOK (E : Nat) : EPc → Prop
  | .loadCur => True
  | .check cur _ => cur = E
  | .minScan m _ => 1 ≤ m.getD E ∧ m.getD E ≤ E

/-- what the scan in progress has established about an active slot `i` with `begin = b` -/
def Scanned (E i b : Nat) : EPc → Prop
  | .loadCur => True
  | .check _ j => i < j → b = E
  | .minScan m j => i < j → m.getD E ≤ b

structure GlobOK (E G : Nat) (gpc : GPc) (epc : EPc) : Prop where
  E_pos : 1 ≤ E
  G_lt : G < E
  g_lt : ∀ g, gpc.g? = some g → g < E
  epc : EpcOK E epc

structure ActiveOK (E G n : Nat) (gpc : GPc) (epc : EPc) (i b : Nat) : Prop where
  pos : 1 ≤ b
  window : E ≤ b + 1
  G_lt : G < b
  lt_n : i < n
  g_lt : ∀ g, gpc.g? = some g → g < b
  scanned : Scanned E i b epc

/-- `fix` is `Cfg.fixD3`: the unrepaired enter relies on a loaded value that is still current -/
def SlotOK (fix : Bool) (E G n : Nat) (gpc : GPc) (epc : EPc) (i b : Nat) : WPc → Prop
  | .loaded e => b ≤ E ∧ 1 ≤ e ∧ e ≤ E ∧ (fix = false → e = E)
  | .published e => b = e ∧ 1 ≤ e ∧ e ≤ E
  | .active => b ≤ E ∧ ActiveOK E G n gpc epc i b
  | _ => b ≤ E

theorem SlotOK.le {fix E G n gpc epc i b pc} (h : SlotOK fix E G n gpc epc i b pc) : b ≤ E := by
  cases pc with
  | loaded e => exact h.1
  | published e => exact h.1 ▸ h.2.2
  | active => exact h.1
  | _ => exact h

/-- a slot that is not active needs `E` not to decrease, and before the repair a `loaded` slot
    needs `E` unchanged (`hst`) -/
theorem SlotOK.frame {fix E G n gpc epc i b pc E' G' gpc' epc'}
    (h : SlotOK fix E G n gpc epc i b pc) (hE : E ≤ E')
    (hst : fix = false → ∀ e, pc = .loaded e → E' = E)
    (hact : ActiveOK E G n gpc epc i b → ActiveOK E' G' n gpc' epc' i b) :
    SlotOK fix E' G' n gpc' epc' i b pc := by
  cases pc with
  | loaded e =>
    exact ⟨Nat.le_trans h.1 hE, h.2.1, Nat.le_trans h.2.2.1 hE,
      fun hf => (h.2.2.2 hf).trans (hst hf e rfl).symm⟩
  | published e => exact ⟨h.1, h.2.1, Nat.le_trans h.2.2 hE⟩
  | active => exact ⟨Nat.le_trans h.1 hE, hact h.2⟩
  | _ => exact Nat.le_trans h hE

theorem slotOK_fresh_active {fix E G n gpc epc i b} (hg : GlobOK E G gpc epc) (hi : i < n)
    (hb : b = E) : SlotOK fix E G n gpc epc i b .active := by
  subst hb
  refine ⟨Nat.le_refl _, hg.E_pos, Nat.le_succ _, hg.G_lt, hi, hg.g_lt, ?_⟩
  have := hg.epc
  cases epc with
  | loadCur => trivial
  | check cur j => exact fun _ => rfl
  | minScan m j => exact fun _ => this.2

structure Ghost (s : State) : Prop where
  witAct : ∀ o j, j ∈ s.wit o → s.pc j = .active
  ret : ∀ i t o, (t, o) ∈ s.items i → o ∈ s.allocd ∧ ∀ j, j ∈ s.wit o → s.bg j ≤ t + 1
  freedA : ∀ o, o ∈ s.freed → o ∈ s.allocd ∧ s.wit o = []

structure Inv (cfg : Cfg) (s : State) : Prop where
  glob : GlobOK s.E s.G s.gpc s.epc
  slot : ∀ i, SlotOK cfg.fixD3 s.E s.G s.n s.gpc s.epc i (s.bg i) (s.pc i)
  ghost : Ghost s
  distinct : DistinctOn (objsOf s.slots) s.freed

variable {cfg : Cfg} {s s' : State}

theorem inv_init (N : Nat) : Inv cfg (init N) :=
  ⟨⟨Nat.le_refl _, Nat.zero_lt_one, nofun, trivial⟩, fun _ => Nat.zero_le _, ⟨nofun, nofun, nofun⟩,
    fun _ => List.nodup_nil, nofun, nofun, List.nodup_nil⟩

theorem Inv.active (h : Inv cfg s) {i : Nat} (ha : s.pc i = .active) :
    ActiveOK s.E s.G s.n s.gpc s.epc i (s.bg i) := by
  have := h.slot i
  rw [ha] at this
  exact this.2

/-- `hw`: witness sets only shrink, and a witness keeps the pc and `begin` of its own slot -/
theorem inv_upd (h : Inv cfg s) (i : Nat) (sl : Slot) (fr : List Nat) (w : Nat → List Nat)
    (hnew : SlotOK cfg.fixD3 s.E s.G s.n s.gpc s.epc i sl.begin sl.pc)
    (hitems : ∀ t o, (t, o) ∈ sl.items →
      (t, o) ∈ s.items i ∨ (o ∈ s.allocd ∧ ∀ j, j ∈ s.wit o → s.bg j ≤ t + 1))
    (hw : ∀ o j, j ∈ w o → j ∈ s.wit o ∧ (j = i → sl.pc = s.pc i ∧ sl.begin = s.bg i))
    (hfr : ∀ o, o ∈ fr → o ∈ s.freed ∨ (o ∈ s.allocd ∧ s.wit o = []))
    (hd : DistinctOn (upd (objsOf s.slots) i (sl.items.map Prod.snd)) fr) :
    Inv cfg { s with slots := upd s.slots i sl, freed := fr, wit := w } := by
  have key : ∀ o j, j ∈ w o →
      (upd s.slots i sl j).pc = .active ∧ (upd s.slots i sl j).begin = s.bg j := by
    intro o j hj
    obtain ⟨hj, hji⟩ := hw o j hj
    have ha := h.ghost.witAct o j hj
    by_cases e : j = i
    · rw [e, upd_same, (hji e).1, (hji e).2]; exact ⟨e ▸ ha, e ▸ rfl⟩
    · rw [upd_other _ _ _ _ e]; exact ⟨ha, rfl⟩
  refine ⟨h.glob, fun j => ?_, ⟨fun o j hj => (key o j hj).1, fun k t o hk => ?_, fun o ho => ?_⟩,
    objsOf_upd .. ▸ hd⟩
  · show SlotOK _ _ _ _ _ _ j (upd s.slots i sl j).begin (upd s.slots i sl j).pc
    by_cases e : j = i
    · rw [e, upd_same]; exact hnew
    · rw [upd_other _ _ _ _ e]; exact h.slot j
  · have hk : (t, o) ∈ (upd s.slots i sl k).items := hk
    obtain ⟨ha, hb⟩ : o ∈ s.allocd ∧ ∀ j, j ∈ s.wit o → s.bg j ≤ t + 1 := by
      by_cases e : k = i
      · rw [e, upd_same] at hk; exact (hitems t o hk).elim (h.ghost.ret i t o) id
      · rw [upd_other _ _ _ _ e] at hk; exact h.ghost.ret k t o hk
    exact ⟨ha, fun j hj => Nat.le_trans (Nat.le_of_eq (key o j hj).2) (hb j (hw o j hj).1)⟩
  · obtain ⟨ha, hn⟩ := (hfr o ho).elim (h.ghost.freedA o) id
    refine ⟨ha, List.eq_nil_iff_forall_not_mem.mpr fun j hj => ?_⟩
    have := (hw o j hj).1
    rw [hn] at this
    cases this

/-- `hp` is the pc the event's guard gives, so that `hna` is closed by `nofun` -/
theorem inv_setSlot (h : Inv cfg s) (i : Nat) (sl : Slot) (hitems : sl.items = s.items i)
    (hnew : SlotOK cfg.fixD3 s.E s.G s.n s.gpc s.epc i sl.begin sl.pc) {pc : WPc}
    (hp : s.pc i = pc) (hna : pc ≠ .active) : Inv cfg (s.setSlot i sl) :=
  inv_upd h i sl s.freed s.wit hnew (fun _ _ hx => .inl (hitems ▸ hx))
    (fun o _ hj => ⟨hj, fun e => absurd (h.ghost.witAct o _ hj) (e ▸ hp ▸ hna)⟩) (fun _ => .inl)
    (by rw [hitems]; exact distinct_sub h.distinct i _ (List.Sublist.refl _))

theorem inv_glob_step (h : Inv cfg s) (E' G' : Nat) (gpc' : GPc) (epc' : EPc) (hE : s.E ≤ E')
    (hst : cfg.fixD3 = false → ∀ i e, s.pc i = .loaded e → E' = s.E)
    (hg : GlobOK E' G' gpc' epc')
    (hact : ∀ i, ActiveOK s.E s.G s.n s.gpc s.epc i (s.bg i) →
      ActiveOK E' G' s.n gpc' epc' i (s.bg i)) :
    Inv cfg { s with E := E', G := G', gpc := gpc', epc := epc' } :=
  ⟨hg, fun i => (h.slot i).frame hE (fun hf => hst hf i) (hact i),
    ⟨h.ghost.witAct, h.ghost.ret, h.ghost.freedA⟩, h.distinct⟩

theorem inv_epc (h : Inv cfg s) (epc' : EPc) (hok : EpcOK s.E epc')
    (hsc : ∀ i, 1 ≤ s.bg i → Scanned s.E i (s.bg i) s.epc → Scanned s.E i (s.bg i) epc') :
    Inv cfg { s with epc := epc' } :=
  inv_glob_step h s.E s.G s.gpc epc' (Nat.le_refl _) (fun _ _ _ _ => rfl) { h.glob with epc := hok }
    fun i a => { a with scanned := hsc i a.pos a.scanned }

theorem inv_gpc (h : Inv cfg s) (gpc' : GPc)
    (hsub : ∀ g, gpc'.g? = some g → g = s.G ∨ s.gpc.g? = some g) :
    Inv cfg { s with gpc := gpc' } :=
  inv_glob_step h s.E s.G gpc' s.epc (Nat.le_refl _) (fun _ _ _ _ => rfl)
    { h.glob with g_lt := fun g hg => (hsub g hg).elim (· ▸ h.glob.G_lt) (h.glob.g_lt g) }
    fun _ a => { a with g_lt := fun g hg => (hsub g hg).elim (· ▸ a.G_lt) (a.g_lt g) }

/-- `¬ g ≤ t` and `g < begin[k] ≤ t + 1` for a witness `k` cannot both hold, so a freed item has no
    witness left -/
theorem free_ok (h : Inv cfg s) {j t o g : Nat} (hit : (t, o) ∈ s.items j)
    (hg : s.gpc.g? = some g) (hlt : ¬ g ≤ t) :
    ∀ o', o' ∈ s.freed ++ [o] → o' ∈ s.freed ∨ (o' ∈ s.allocd ∧ s.wit o' = []) := by
  intro o' ho'
  rcases List.mem_append.mp ho' with ho' | ho'
  · exact .inl ho'
  rw [List.mem_singleton.mp ho']
  obtain ⟨ha, hw⟩ := h.ghost.ret j t o hit
  refine .inr ⟨ha, List.eq_nil_iff_forall_not_mem.mpr fun k hk => ?_⟩
  have h1 := hw k hk
  have h2 := (h.active (h.ghost.witAct o k hk)).g_lt g hg
  omega

/-- a sublist: `gPop` overwrites the cache cell, and nothing here says it was empty -/
theorem inv_gc_keep (h : Inv cfg s) (j : Nat) (q : List (Nat × Nat)) (c : Option (Nat × Nat))
    (hs : (c.toList ++ q).Sublist (s.items j)) :
    Inv cfg { s with slots := upd s.slots j { s.slots j with queue := q, cache := c } } :=
  inv_upd h j _ s.freed s.wit (h.slot j) (fun _ _ hx => .inl (hs.subset hx))
    (fun _ _ hj => ⟨hj, fun _ => ⟨rfl, rfl⟩⟩) (fun _ => .inl)
    (distinct_sub h.distinct j _ (hs.map Prod.snd))

theorem inv_release (h : Inv cfg s) {j t o g : Nat} (q : List (Nat × Nat))
    (c : Option (Nat × Nat)) (hp : (s.items j).Perm ((t, o) :: (c.toList ++ q)))
    (hg : s.gpc.g? = some g) (hlt : ¬ g ≤ t) :
    Inv cfg { s with
      slots := upd s.slots j { s.slots j with queue := q, cache := c }, freed := s.freed ++ [o] } :=
  inv_upd h j _ _ s.wit (h.slot j)
    (fun _ _ hx => .inl (hp.mem_iff.mpr (List.mem_cons_of_mem _ hx)))
    (fun _ _ hj => ⟨hj, fun _ => ⟨rfl, rfl⟩⟩)
    (free_ok h (hp.mem_iff.mpr List.mem_cons_self) hg hlt)
    (distinct_free h.distinct j o _ (hp.map Prod.snd))

/-- the ghost half of `unlinkRetire` -/
theorem inv_alloc {obj} (h : Inv cfg s) (hfresh : obj ∉ s.allocd) :
    Inv cfg { s with allocd := obj :: s.allocd, wit := upd s.wit obj (activeSlots s) } := by
  have hold : ∀ o, o ∈ s.allocd → upd s.wit obj (activeSlots s) o = s.wit o :=
    fun o ho => upd_other _ _ _ _ fun e => hfresh (e ▸ ho)
  refine ⟨h.glob, h.slot, ⟨fun o j hj => ?_, fun k t o hk => ?_, fun o ho => ?_⟩, h.distinct⟩
  · have hj : j ∈ upd s.wit obj (activeSlots s) o := hj
    by_cases ho : o = obj
    · rw [ho, upd_same] at hj; exact of_decide_eq_true (List.mem_filter.mp hj).2
    · rw [upd_other _ _ _ _ ho] at hj; exact h.ghost.witAct o j hj
  · obtain ⟨ha, hb⟩ := h.ghost.ret k t o hk
    refine ⟨List.mem_cons_of_mem _ ha, fun j hj => hb j ?_⟩
    have hj : j ∈ upd s.wit obj (activeSlots s) o := hj
    rwa [hold o ha] at hj
  · obtain ⟨ha, hn⟩ := h.ghost.freedA o ho
    exact ⟨List.mem_cons_of_mem _ ha, (hold o ha).trans hn⟩

/-- `hadj`: the unrepaired enter needs `E` not to move while a worker holds a loaded value -/
theorem inv_step {ev : Event} (h : Inv cfg s) (hs : step? cfg s ev = some s')
    (hadj : cfg.fixD3 = false → ev = .eInc → ∀ i e, s.pc i ≠ .loaded e) : Inv cfg s' := by
  cases ev <;> simp only [step?, Option.ite_none_right_eq_some, Option.some.injEq] at hs
  case claim i =>
    obtain ⟨hg, rfl⟩ := hs
    exact inv_setSlot h i _ rfl (h.slot i).le hg.2.2 nofun
  case loadE i =>
    obtain ⟨hg, rfl⟩ := hs
    exact inv_setSlot h i _ rfl ⟨(h.slot i).le, h.glob.E_pos, Nat.le_refl _, fun _ => rfl⟩ hg.2 nofun
  case publish i =>
    split at hs <;> simp only [Option.ite_none_right_eq_some, Option.some.injEq, reduceCtorEq] at hs
    next e hp =>
    obtain ⟨hi, rfl⟩ := hs
    have hl := hp ▸ h.slot i
    refine inv_setSlot h i _ rfl ?_ hp nofun
    cases hfix : cfg.fixD3 with
    | true => exact ⟨rfl, hl.2.1, hl.2.2.1⟩
    | false => exact slotOK_fresh_active h.glob hi (hl.2.2.2 hfix)
  case recheck i =>
    split at hs <;> simp only [Option.ite_none_right_eq_some, Option.some.injEq, reduceCtorEq] at hs
    next e hp =>
    obtain ⟨hi, rfl⟩ := hs
    have hl := hp ▸ h.slot i
    refine inv_setSlot h i _ rfl ?_ hp nofun
    by_cases hE : s.E = e
    · rw [if_pos hE]; exact slotOK_fresh_active h.glob hi (hl.1.trans hE.symm)
    · rw [if_neg hE]; exact hl.le
  case leaveBegin i =>
    obtain ⟨_, rfl⟩ := hs
    exact inv_upd h i _ s.freed _ (Nat.zero_le _) (fun _ _ => .inl) (fun o j hj =>
      have hj := List.mem_filter.mp hj
      ⟨hj.1, fun e => absurd e (of_decide_eq_true hj.2)⟩) (fun _ => .inl)
      (distinct_sub h.distinct i _ (List.Sublist.refl _))
  case leaveRunning i =>
    obtain ⟨hg, rfl⟩ := hs
    exact inv_setSlot h i _ rfl (h.slot i).le hg.2 nofun
  case unlinkRetire i obj =>
    obtain ⟨⟨_, hp, hfresh⟩, rfl⟩ := hs
    -- allocate with the witness set (`inv_alloc`), then push with the tag `begin[i]`
    refine inv_upd (inv_alloc h hfresh) i _ s.freed _ (h.slot i) (fun t o hx => ?_)
      (fun _ _ hj => ⟨hj, fun _ => ⟨rfl, rfl⟩⟩) (fun _ => .inl) ?_
    · rw [Slot.items_push] at hx
      refine (List.mem_append.mp hx).imp id fun hx => ?_
      cases List.mem_singleton.mp hx
      exact ⟨List.mem_cons_self, fun j _ => Nat.le_trans (h.slot j).le (h.active hp).window⟩
    · rw [Slot.items_push, List.map_append]
      refine distinct_retire h.distinct i obj (fun k hk => ?_)
        fun hf => hfresh (h.ghost.freedA obj hf).1
      obtain ⟨⟨t, o⟩, hk1, rfl⟩ := List.mem_map.mp hk
      exact hfresh (h.ghost.ret k t o hk1).1
  case eLoadCur =>
    split at hs <;> simp only [Option.some.injEq, reduceCtorEq] at hs
    subst hs
    exact inv_epc h _ rfl fun i _ _ hlt => absurd hlt (Nat.not_lt_zero i)
  case eCheck j =>
    split at hs <;> simp only [Option.ite_none_right_eq_some, reduceCtorEq] at hs
    next cur j' hp =>
    obtain ⟨⟨rfl, _⟩, hs⟩ := hs
    have hcur : cur = s.E := by have := h.glob.epc; rwa [hp] at this
    split at hs <;> cases hs
    · exact inv_epc h _ trivial fun _ _ _ => trivial
    · next hb =>
      refine inv_epc h _ hcur fun i hb1 hsc hlt => ?_
      rw [hp] at hsc
      rcases Nat.lt_succ_iff_lt_or_eq.mp hlt with hij | rfl
      · exact hsc hij
      · omega
  case eInc =>
    split at hs <;> simp only [Option.ite_none_right_eq_some, Option.some.injEq, reduceCtorEq] at hs
    next cur j hp =>
    obtain ⟨rfl, rfl⟩ := hs
    refine inv_glob_step h _ _ _ _ (Nat.le_succ _)
      (fun hf i e hpc => absurd hpc (hadj hf rfl i e))
      ⟨Nat.le_succ_of_le h.glob.E_pos, Nat.lt_succ_of_lt h.glob.G_lt,
        fun g hg => Nat.lt_succ_of_lt (h.glob.g_lt g hg), Nat.le_add_left 1 _, Nat.le_refl _⟩
      fun i a => { a with window := ?_, scanned := fun hlt => absurd hlt (Nat.not_lt_zero i) }
    -- the check scan has passed every slot: every active session has `begin = E`
    have := a.scanned
    rw [hp] at this
    exact Nat.succ_le_succ (Nat.le_of_eq (this a.lt_n).symm)
  case eMinScan j =>
    split at hs <;> simp only [Option.ite_none_right_eq_some, reduceCtorEq] at hs
    next m j' hp =>
    obtain ⟨⟨rfl, _⟩, hs⟩ := hs
    have hm : EpcOK s.E (.minScan m j) := hp ▸ h.glob.epc
    -- all that matters of the new minimum, whichever way `step?` spells it
    suffices ∀ m' : Option Nat, 1 ≤ m'.getD s.E → m'.getD s.E ≤ m.getD s.E →
        (s.bg j ≠ 0 → m'.getD s.E ≤ s.bg j) → Inv cfg { s with epc := .minScan m' (j + 1) } by
      split at hs <;> cases hs
      · next hb =>
        cases m with
        | none => exact this (some _) (Nat.pos_of_ne_zero hb) (h.slot j).le fun _ => Nat.le_refl _
        | some v =>
          exact this (some _) (Nat.le_min.mpr ⟨hm.1, Nat.pos_of_ne_zero hb⟩) (Nat.min_le_left ..)
            fun _ => Nat.min_le_right ..
      · next hb => exact this m hm.1 (Nat.le_refl _) fun hb' => absurd hb' hb
    intro m' h1 hle hj
    refine inv_epc h _ ⟨h1, Nat.le_trans hle hm.2⟩ fun i hb1 hsc hlt => ?_
    rw [hp] at hsc
    rcases Nat.lt_succ_iff_lt_or_eq.mp hlt with hij | rfl
    · exact Nat.le_trans hle (hsc hij)
    · exact hj (Nat.ne_of_gt hb1)
  case eSetG =>
    split at hs <;> simp only [Option.ite_none_right_eq_some, Option.some.injEq, reduceCtorEq] at hs
    next m j hp =>
    obtain ⟨rfl, rfl⟩ := hs
    have hm : EpcOK s.E (.minScan m s.n) := hp ▸ h.glob.epc
    suffices ∀ x, x = m.getD s.E → Inv cfg { s with G := x - 1, epc := .loadCur } by
      cases m <;> exact this _ rfl
    intro x hx
    refine inv_glob_step h _ _ _ _ (Nat.le_refl _) (fun _ _ _ _ => rfl)
      { h.glob with G_lt := ?_, epc := trivial } fun i a => { a with G_lt := ?_, scanned := trivial }
    · have := hm.1; have := hm.2; omega
    · -- the min scan has passed every slot: `m ≤ begin` for every active session
      have := a.scanned
      rw [hp] at this
      have := this a.lt_n; have := hm.1
      omega
  case gLoadG j =>
    split at hs <;> simp only [Option.ite_none_right_eq_some, Option.some.injEq, reduceCtorEq] at hs
    obtain ⟨_, rfl⟩ := hs
    exact inv_gpc h _ fun g hg => .inl (Option.some.inj hg).symm
  case gCache j =>
    split at hs <;> simp only [Option.ite_none_right_eq_some, reduceCtorEq] at hs
    next j' g hp =>
    obtain ⟨rfl, hs⟩ := hs
    have hg : ∀ g', (GPc.pop j g).g? = some g' → g' = s.G ∨ s.gpc.g? = some g' :=
      fun _ hg => .inr (by rw [hp]; exact hg)
    split at hs
    · cases hs; exact inv_gpc h _ hg
    · next t o hc =>
      split at hs <;> cases hs
      · exact inv_gpc h _ nofun
      · next hlt =>
        refine inv_release (inv_gpc h (.pop j g) hg) _ none ?_ rfl hlt
        show List.Perm ((s.slots j).cache.toList ++ (s.slots j).queue) _
        rw [hc]; exact .refl _
  case gPop j =>
    split at hs <;> simp only [Option.ite_none_right_eq_some, reduceCtorEq] at hs
    next j' g hp =>
    obtain ⟨rfl, hs⟩ := hs
    split at hs
    · cases hs; exact inv_gpc h _ nofun
    · next t o rest hq =>
      have hq : s.items j = (s.slots j).cache.toList ++ (t, o) :: rest := congrArg _ hq
      split at hs <;> cases hs
      · exact inv_gc_keep (inv_gpc h (.loadG (nextSlot s j)) nofun) j rest (some (t, o))
          (hq ▸ List.sublist_append_right _ _)
      · next hlt => exact inv_release h rest _ (hq ▸ List.perm_middle) (by rw [hp]; rfl) hlt

theorem inv_reach {N : Nat} (h : Reach cfgFixed (init N) s) : Inv cfgFixed s := by
  induction h with
  | refl => exact inv_init N
  | step _ hs ih => exact inv_step ih hs fun hf => by cases hf

/-- runs of the UNREPAIRED protocol in which the epoch is never incremented while some worker is
    between its load of `E` and its store to `begin` -/
inductive ReachAdj (s0 : State) : State → Prop
  | refl : ReachAdj s0 s0
  | step {s s' e} : ReachAdj s0 s → step? cfgD3 s e = some s' →
      (e = .eInc → ∀ i x, s.pc i ≠ .loaded x) → ReachAdj s0 s'

theorem inv_reachAdj {N : Nat} (h : ReachAdj (init N) s) : Inv cfgD3 s := by
  induction h with
  | refl => exact inv_init N
  | step _ hs hadj ih => exact inv_step ih hs fun _ => hadj

def prematureB (s : State) : Bool := s.freed.any fun o => !(s.wit o).isEmpty

def freedSafelyWhileActiveB (k : Nat) (s : State) : Bool :=
  !s.freed.isEmpty && s.freed.all (fun o => (s.wit o).isEmpty) && decide (s.pc k = .active)

def checkRun (cfg : Cfg) (s0 : State) (evs : List Event) (p : State → Bool) : Bool :=
  match run cfg s0 evs with
  | some s => p s
  | none => false

theorem exists_of_checkRun {cfg : Cfg} {s0 : State} {evs : List Event} {p : State → Bool}
    (h : checkRun cfg s0 evs p = true) : ∃ s, Reach cfg s0 s ∧ p s = true := by
  unfold checkRun at h
  cases hr : run cfg s0 evs with
  | none => rw [hr] at h; cases h
  | some s => rw [hr] at h; exact ⟨s, reach_of_run evs s0 s hr, h⟩

theorem premature_of_checkRun {cfg : Cfg} {s0 : State} {evs : List Event}
    (h : checkRun cfg s0 evs prematureB = true) :
    ∃ s, Reach cfg s0 s ∧ ∃ obj ∈ s.freed, witness s obj ≠ [] := by
  obtain ⟨s, hr, hp⟩ := exists_of_checkRun h
  simp only [prematureB, List.any_eq_true, Bool.not_eq_true', List.isEmpty_eq_false_iff] at hp
  exact ⟨s, hr, hp⟩

end Yak.Proto.Epoch
