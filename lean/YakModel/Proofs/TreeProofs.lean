import YakModel.Proofs.RemoveMain
import YakModel.Proofs.ContentProofs
import YakModel.Proofs.InvCheck
/-!
# The executable invariant check decides `Inv`; entry point to the proofs about the sequential tree

`checkInv` tests only neighbouring leaves of a chain, `Inv` orders it pairwise: `invFast_iff`
(`InvCheck`) bridges the two. The property files C02, C08 and C12, `ScanLanding` and `ScanExamples`
import the tree proofs through this module.
-/
namespace Yak.Tree
open Yak

theorem checkInv_iff (t : Tree) : checkInv t = true ↔ Inv t := by
  unfold checkInv; exact decide_eq_true_iff.trans (invFast_iff t)

end Yak.Tree
