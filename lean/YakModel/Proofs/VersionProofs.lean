import YakModel.Version
/-!
# Bit-level facts about the node version word

`encode`/`decode` are inverse bijections; `unlockW` (the field view) agrees with `unlockArith`
(plain 64-bit arithmetic); each setter touches only its own field.
-/
namespace Yak.Version
open Yak.Const

theorem ofBool_getLsbD (w : W) (i : Nat) : BitVec.ofBool (w.getLsbD i) = w.extractLsb' i 1 := by
  ext j hj
  obtain rfl : j = 0 := by omega
  simp

theorem extract_append (w : W) (s l₁ l₂ : Nat) :
    w.extractLsb' (s + l₁) l₂ ++ w.extractLsb' s l₁ = w.extractLsb' s (l₂ + l₁) :=
  BitVec.extractLsb'_append_extractLsb'_eq_extractLsb' rfl

/-- the eight fields that `decode` reads are adjacent, from bit 0 to bit 63 -/
theorem encode_decode (w : W) : encode (decode w) = w := by
  simp only [encode, decode, vinsertShift, lockedBit, insertingBit, splittingBit, vsplitShift,
    deletedBit, rootBit, borderBit, ofBool_getLsbD]
  rw [extract_append w 62 1, extract_append w 61 1, extract_append w 32 29, extract_append w 31 1,
    extract_append w 30 1, extract_append w 29 1, extract_append w 0 29]
  exact BitVec.extractLsb'_eq_self

theorem append_inj {n m : Nat} {a c : BitVec n} {b d : BitVec m} (h : a ++ b = c ++ d) :
    a = c ∧ b = d := by
  have h1 := congrArg (BitVec.extractLsb' m n) h
  have h2 := congrArg (BitVec.extractLsb' 0 m) h
  rw [BitVec.extractLsb'_append_eq_left, BitVec.extractLsb'_append_eq_left] at h1
  rw [BitVec.extractLsb'_append_eq_right, BitVec.extractLsb'_append_eq_right] at h2
  exact ⟨h1, h2⟩

theorem encode_inj {a b : Body} (h : encode a = encode b) : a = b := by
  cases a; cases b
  obtain ⟨h, rfl⟩ := append_inj h
  obtain ⟨h, h1⟩ := append_inj h
  obtain ⟨h, h2⟩ := append_inj h
  obtain ⟨h, h3⟩ := append_inj h
  obtain ⟨h, rfl⟩ := append_inj h
  obtain ⟨h, h4⟩ := append_inj h
  obtain ⟨h6, h5⟩ := append_inj h
  rw [BitVec.ofBool_eq_iff_eq] at h1 h2 h3 h4 h5 h6
  subst h1 h2 h3 h4 h5 h6
  rfl

theorem decode_encode (b : Body) : decode (encode b) = b :=
  encode_inj (encode_decode (encode b))

theorem Body.unlock_eq (b : Body) :
    b.unlock = { b with
      vinsert := if b.inserting then b.vinsert + 1 else b.vinsert
      vsplit := if b.splitting then b.vsplit + 1 else b.vsplit
      locked := false, inserting := false, splitting := false } := by
  obtain ⟨_, _, i, s, _, _, _, _⟩ := b
  cases i <;> cases s <;> rfl

theorem decode_unlockW (w : W) : decode (unlockW w) = (decode w).unlock :=
  decode_encode _

theorem unlock_clears (w : W) :
    (decode (unlockW w)).locked = false ∧ (decode (unlockW w)).inserting = false ∧
    (decode (unlockW w)).splitting = false := by
  rw [decode_unlockW, Body.unlock_eq]
  exact ⟨rfl, rfl, rfl⟩

theorem unlock_wraps (b : Body) (h : b.vinsert = BitVec.ofNat 29 (2^29 - 1)) (hi : b.inserting = true) :
    (decode (unlockW (encode b))).vinsert = 0 ∧ (decode (unlockW (encode b))).vsplit =
      (if b.splitting then b.vsplit + 1 else b.vsplit) := by
  rw [decode_unlockW, decode_encode, Body.unlock_eq]
  refine ⟨?_, rfl⟩
  show (if b.inserting then b.vinsert + 1 else b.vinsert) = 0
  rw [hi, h]
  rfl

/-- the carry out of the field at bit `o` is not part of the field -/
theorem field_add_one (w : W) (o n : Nat) (ho : o < 64) (h : o + n ≤ 64) :
    (w + BitVec.twoPow 64 o).extractLsb' o n = w.extractLsb' o n + 1#n := by
  apply BitVec.eq_of_toNat_eq
  have hd : 2 ^ o * 2 ^ n ∣ 2 ^ 64 := by rw [← Nat.pow_add]; exact Nat.pow_dvd_pow 2 h
  rw [BitVec.extractLsb'_toNat, BitVec.toNat_add, BitVec.toNat_add, BitVec.extractLsb'_toNat,
    BitVec.toNat_twoPow_of_lt ho, Nat.shiftRight_eq_div_pow, Nat.shiftRight_eq_div_pow,
    ← Nat.mod_mul_right_div_self, Nat.mod_mod_of_dvd _ hd, Nat.mod_mul_right_div_self,
    Nat.add_div_right _ (Nat.two_pow_pos o), BitVec.toNat_ofNat, Nat.add_mod (w.toNat / 2 ^ o) 1]

theorem lo_add_one (w : W) : (w + 1#64).extractLsb' 0 29 = w.extractLsb' 0 29 + 1#29 :=
  field_add_one w 0 29 (by decide) (by decide)

/-- `4294967296 = 2^32` is how `simp` writes `1#64 <<< vsplitShift` -/
theorem hi_add_one (w : W) :
    (w + 4294967296#64).extractLsb' 32 29 = w.extractLsb' 32 29 + 1#29 :=
  field_add_one w 32 29 (by decide) (by decide)

/-! The three steps of `unlockArith` (its `w1`, `w2` and result), each as a function of its own. -/

def insStep (w : W) : W :=
  ((w &&& ~~~(0x1FFFFFFF#64)) ||| ((w + 1#64) &&& 0x1FFFFFFF#64)) &&& ~~~(1#64 <<< insertingBit)

def splitStep (w : W) : W :=
  ((w &&& ~~~(0x1FFFFFFF#64 <<< vsplitShift)) |||
    ((w + (1#64 <<< vsplitShift)) &&& (0x1FFFFFFF#64 <<< vsplitShift))) &&&
    ~~~(1#64 <<< splittingBit)

def lockStep (w : W) : W := w &&& ~~~(1#64 <<< lockedBit)

theorem unlockArith_eq (w : W) :
    unlockArith w =
      lockStep (if (if w.getLsbD insertingBit then insStep w else w).getLsbD splittingBit
                then splitStep (if w.getLsbD insertingBit then insStep w else w)
                else (if w.getLsbD insertingBit then insStep w else w)) := rfl

/- Reading a bit or a field commutes with `&&&`, `|||`, `~~~`; the masks' own fields are closed. -/

/-- `536870911 = 2^29 - 1`: the mask `0x1FFFFFFF <<< o` seen in the field at `o` -/
theorem and_ones29 (x : BitVec 29) : x &&& 536870911#29 = x := by
  rw [show 536870911#29 = BitVec.allOnes 29 by decide, BitVec.and_allOnes]

theorem decode_insStep (w : W) :
    decode (insStep w) = { decode w with vinsert := (decode w).vinsert + 1, inserting := false } := by
  simp [decode, insStep, vinsertShift, lockedBit, insertingBit, splittingBit, vsplitShift,
    deletedBit, rootBit, borderBit, BitVec.extractLsb'_and, BitVec.extractLsb'_or, lo_add_one, and_ones29]

theorem decode_splitStep (w : W) :
    decode (splitStep w) = { decode w with vsplit := (decode w).vsplit + 1, splitting := false } := by
  simp [decode, splitStep, vinsertShift, lockedBit, insertingBit, splittingBit, vsplitShift,
    deletedBit, rootBit, borderBit, BitVec.extractLsb'_and, BitVec.extractLsb'_or, hi_add_one, and_ones29]

theorem decode_lockStep (w : W) :
    decode (lockStep w) = { decode w with locked := false } := by
  simp [decode, lockStep, vinsertShift, lockedBit, insertingBit, splittingBit, vsplitShift,
    deletedBit, rootBit, borderBit, BitVec.extractLsb'_and, and_ones29]

theorem decode_unlockArith (w : W) : decode (unlockArith w) = (decode w).unlock := by
  rw [unlockArith_eq, decode_lockStep]
  have hI : w.getLsbD insertingBit = (decode w).inserting := rfl
  have hS : ∀ v : W, v.getLsbD splittingBit = (decode v).splitting := fun _ => rfl
  rw [hI, hS]
  unfold Body.unlock
  cases h1 : (decode w).inserting <;> cases h2 : (decode w).splitting <;>
    simp [h1, h2, decode_insStep, decode_splitStep]

theorem unlockW_eq_arith (w : W) : unlockW w = unlockArith w := by
  rw [← encode_decode (unlockArith w), decode_unlockArith]
  rfl

theorem setters_local (w : W) (tf : Bool) :
    decode (setRootW w tf) = { decode w with root := tf } ∧
    decode (setBorderW w tf) = { decode w with border := tf } ∧
    decode (setDeletedW w tf) = { decode w with deleted := tf } ∧
    decode (setInsertingW w tf) = { decode w with inserting := tf } ∧
    decode (setSplittingW w tf) = { decode w with splitting := tf } ∧
    decode (lockW w) = { decode w with locked := true } :=
  ⟨decode_encode _, decode_encode _, decode_encode _, decode_encode _, decode_encode _,
    decode_encode _⟩

end Yak.Version
