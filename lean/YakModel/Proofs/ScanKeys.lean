import YakModel.Scan
import YakModel.Proofs.ContentProofs
/-!
# Endpoint handling of `scan`: `memcmp` on padded slices / full keys versus `lexLt`
-/
namespace Yak.Tree
open Yak

/-- `simp` does not evaluate the `==` that `EP` gets from its `DecidableEq`; as a `decide` it does. -/
theorem EP.beq_eq_decide (a b : EP) : (a == b) = decide (a = b) := rfl

def inLeft (lk : Key) (le : EP) (r : Key) : Bool :=
  match le with
  | .inf => true
  | .incl => !lexLt r lk
  | .excl => lexLt lk r

def inRight (rk : Key) (re : EP) (k : Key) : Bool :=
  match re with
  | .inf => true
  | .incl => !lexLt rk k
  | .excl => lexLt k rk

theorem inInterval_eq (lk : Key) (le : EP) (rk : Key) (re : EP) (k : Key) :
    inInterval lk le rk re k = (inLeft lk le k && inRight rk re k) := by
  cases le <;> cases re <;> rfl

theorem lexLt_false_of_lt {a b : Key} (h : lexLt a b = true) : lexLt b a = false := lexLt_asymm a b h

theorem lexLt_of_le_of_lt {a b c : Key} (h1 : lexLt b a = false) (h2 : lexLt b c = true) : lexLt a c = true :=
  lt_of_le_of_lt_of_trans lexLt_trans (lexLt_total a c) h1 h2

theorem lexLt_of_lt_of_le {a b c : Key} (h1 : lexLt a b = true) (h2 : lexLt c b = false) : lexLt a c = true :=
  lt_of_lt_of_le_of_trans lexLt_trans (lexLt_total a c) h1 h2

/-- downward closed, in the form: above a key outside everything is outside -/
theorem inRight_mono {rk : Key} {re : EP} {k k' : Key} (h : lexLt k k' = true) (hr : inRight rk re k = false) :
    inRight rk re k' = false := by
  cases re with
  | inf => cases hr
  | incl =>
    simp only [inRight, Bool.not_eq_false'] at hr
    simp [inRight, lexLt_trans _ _ _ hr h]
  | excl =>
    simp only [inRight] at hr ⊢
    cases h' : lexLt k' rk with
    | false => rfl
    | true => rw [lexLt_trans _ _ _ h h'] at hr; cases hr

theorem inRight_below {rk : Key} {re : EP} {k k' : Key} (h : lexLt k k' = true) (hr : inRight rk re k' = true) :
    inRight rk re k = true := by
  cases h' : inRight rk re k with
  | true => rfl
  | false => rw [inRight_mono h h'] at hr; cases hr

theorem inRight_true_of_lt {rk : Key} {re : EP} {k : Key} (h : lexLt k rk = true) : inRight rk re k = true := by
  cases re with
  | inf => rfl
  | incl => simp [inRight, lexLt_asymm _ _ h]
  | excl => exact h

theorem inRight_false_of_le {rk : Key} {re : EP} {F k' : Key} (hre : re ≠ .inf) (h : lexLt F rk = false)
    (hk : lexLt F k' = true) : inRight rk re k' = false := by
  have hlt : lexLt rk k' = true := lexLt_of_le_of_lt h hk
  cases re with
  | inf => exact absurd rfl hre
  | incl => simp [inRight, hlt]
  | excl => simp only [inRight]; exact lexLt_asymm _ _ hlt

/-- upward closed, in the form: below a key outside everything is outside -/
theorem inLeft_mono {lk : Key} {le : EP} {k k' : Key} (h : lexLt k k' = true) (hl : inLeft lk le k' = false) :
    inLeft lk le k = false := by
  cases le with
  | inf => cases hl
  | incl =>
    simp only [inLeft, Bool.not_eq_false'] at hl
    simp [inLeft, lexLt_trans _ _ _ h hl]
  | excl =>
    simp only [inLeft] at hl ⊢
    cases h' : lexLt lk k with
    | false => rfl
    | true => rw [lexLt_trans _ _ _ h' h] at hl; cases hl

theorem inLeft_false_of_lt {lk : Key} {le : EP} {r : Key} (hle : le ≠ .inf) (h : lexLt r lk = true) :
    inLeft lk le r = false := by
  cases le with
  | inf => exact absurd rfl hle
  | incl => simp [inLeft, h]
  | excl => simp only [inLeft]; exact lexLt_asymm _ _ h

theorem inLeft_true_of_lt {lk : Key} {le : EP} {r : Key} (h : lexLt lk r = true) :
    inLeft lk le r = true := by
  cases le with
  | inf => rfl
  | incl => simp [inLeft, lexLt_asymm _ _ h]
  | excl => exact h

theorem bytes_length_le (k : KT) : k.bytes.length ≤ k.len ∧ k.bytes.length ≤ 8 := by
  unfold KT.bytes
  have h1 : Nat.min k.len 8 ≤ k.len := Nat.min_le_left _ _
  have h2 : Nat.min k.len 8 ≤ 8 := Nat.min_le_right _ _
  simp only [List.length_take]
  omega

theorem memcmp_neg_append (n : Nat) (a b x y : List UInt8) (ha : n ≤ a.length) (hb : n ≤ b.length)
    (h : memcmp a b n < 0) : lexLt (a ++ x) (b ++ y) = true := by
  rw [lexLt_take_drop n, List.take_append_of_le_length ha, List.take_append_of_le_length hb,
    lexLt_take n n a b ha hb, Nat.min_self]
  simp [h]

theorem padTo_length (n : Nat) (l : List UInt8) : (padTo n l).length = n := by
  unfold padTo
  simp only [List.length_append, List.length_take, List.length_replicate]
  omega

theorem padTo_cons (n : Nat) (x : UInt8) (xs : List UInt8) : padTo (n + 1) (x :: xs) = x :: padTo n xs := by
  simp [padTo]

theorem padTo_of_ge {n : Nat} {l : List UInt8} (h : n ≤ l.length) : padTo n l = l.take n := by
  unfold padTo
  have : n - l.length = 0 := by omega
  rw [this]; simp

theorem padTo_of_le {n : Nat} {l : List UInt8} (h : l.length ≤ n) :
    padTo n l = l ++ List.replicate (n - l.length) 0 := by
  unfold padTo
  rw [List.take_of_length_le h]

theorem lexLt_zeros_false : ∀ (n : Nat) (ks : List UInt8), ks.length = n → lexLt ks (List.replicate n 0) = false
  | 0, [], _ => rfl
  | 0, _ :: _, h => by simp at h
  | n + 1, [], h => by simp at h
  | n + 1, y :: ys, h => by
    rw [List.replicate_succ, lexLt_cons, if_neg UInt8.not_lt_zero]
    by_cases h2 : y > 0
    · rw [if_pos h2]
    · rw [if_neg h2]; exact lexLt_zeros_false n ys (by simpa using h)

private theorem lexLt_of_append_lt (a z b : List UInt8) (h : lexLt (a ++ z) b = true) :
    lexLt a b = true := by
  rw [lexLt_take_drop a.length, List.take_left, List.drop_left] at h
  rw [lexLt_take_drop a.length, List.take_of_length_le (Nat.le_refl _),
    List.drop_eq_nil_of_le (Nat.le_refl _)]
  cases hd : b.drop a.length with
  | nil => rw [hd, lexLt_nil_right] at h; simpa using h
  | cons _ _ =>
    rw [Bool.or_eq_true] at h ⊢
    exact h.imp_right fun h => by rw [Bool.and_eq_true] at h; rw [h.1]; rfl

theorem lexLt_of_padTo_lt (n : Nat) (lk ks r : List UInt8) (hk : ks.length = n)
    (h : lexLt (padTo n lk) ks = true) : lexLt lk (ks ++ r) = true := by
  rw [lexLt_take_drop n, List.take_left' hk, lexLt_of_append_lt _ _ _ h]; rfl

/-- zero padding does not lift a string above one as long as the padded string -/
private theorem lexLt_of_lt_append_zeros (ks a : List UInt8) (j : Nat) (hk : ks.length = a.length + j)
    (h : lexLt ks (a ++ List.replicate j 0) = true) : lexLt ks a = true := by
  rw [lexLt_take_drop a.length, List.take_left, List.drop_left,
    lexLt_zeros_false j _ (by rw [List.length_drop]; omega), Bool.and_false, Bool.or_false] at h
  rw [lexLt_take_drop a.length, List.take_of_length_le (Nat.le_refl _), h]; rfl

theorem lexLt_of_lt_padTo (n : Nat) (lk ks r : List UInt8) (hk : ks.length = n)
    (h : lexLt ks (padTo n lk) = true) : lexLt (ks ++ r) lk = true := by
  rw [lexLt_take_drop n, List.take_left' hk,
    lexLt_of_lt_append_zeros ks (lk.take n) (n - lk.length) (by rw [List.length_take]; omega) h]; rfl

end Yak.Tree
