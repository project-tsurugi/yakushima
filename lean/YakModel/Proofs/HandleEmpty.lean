import YakModel.Proofs.PutProofs
/-!
# `handleEmpty`: restores the invariant and does not change what any lookup sees
-/
namespace Yak.Tree
open Yak

theorem filter_erase {a b : List Ent} {e : Ent}
    (hs : (a ++ e :: b).Pairwise (fun x y => KT.ltSpec x.kt y.kt = true)) :
    (a ++ e :: b).filter (fun x => !(x.kt == e.kt)) = a ++ b := by
  obtain ⟨h1, h2⟩ := sorted_split_ne hs
  have keep : ∀ l : List Ent, (∀ x ∈ l, x.kt ≠ e.kt) → l.filter (fun x => !(x.kt == e.kt)) = l := by
    intro l hl
    rw [List.filter_eq_self]
    intro x hx
    cases hb : x.kt == e.kt with
    | false => rfl
    | true => exact absurd ((kt_beq_iff _ _).mp hb) (hl x hx)
  rw [List.filter_append, List.filter_cons, keep a h1, keep b h2, (kt_beq_iff _ _).mpr rfl]
  rfl

/-- the chain `handleEmpty` writes back when it unlinks leaf `i` (same code, on the chain alone) -/
def unlinkLeaves (leaves : List Leaf) (i : Nat) (right : Bool) : List Leaf :=
  (if right then
    match leaves[i + 1]? with
    | some nx => leaves.set (i + 1) { nx with fence := (leaves.getD i emptyLeaf).fence }
    | none => leaves
  else leaves).eraseIdx i

theorem handleEmpty_unlink {t : Tree} {p : List UInt8} {L : Layer} (hL : findLayer t p = some L)
    (hlen : ¬ L.leaves.length ≤ 1) (i : Nat) (dirs : List Bool) (used n : Nat) :
    (handleEmpty t p i dirs used (n + 1)).1 = setLayer t { L with leaves := (unlinkLeaves L.leaves i
      (if i == 0 then true else if i == L.leaves.length - 1 then false else dirs.headD false)) } := by
  rw [handleEmpty, hL]
  dsimp only
  rw [if_neg hlen]
  unfold unlinkLeaves
  -- in each case of `right` and of the right neighbour the two sides are the same term
  by_cases h0 : (i == 0) = true <;> by_cases h1 : (i == L.leaves.length - 1) = true <;>
    simp only [h0, h1, if_true, if_false, Bool.false_eq_true] <;> cases L.leaves[i + 1]? <;> rfl

theorem unlinkLeaves_left (pre post : List Leaf) (l : Leaf) :
    unlinkLeaves (pre ++ l :: post) pre.length false = pre ++ post := by
  rw [unlinkLeaves, if_neg (by simp), List.eraseIdx_eq_take_drop_succ]; simp

theorem unlinkLeaves_right (pre post : List Leaf) (l nx : Leaf) :
    unlinkLeaves (pre ++ l :: nx :: post) pre.length true =
      pre ++ { nx with fence := l.fence } :: post := by
  have hnx : (pre ++ l :: nx :: post)[pre.length + 1]? = some nx := by
    rw [List.getElem?_append_right (by omega)]; simp
  have hg : (pre ++ l :: nx :: post).getD pre.length emptyLeaf = l := by
    rw [List.getD_eq_getElem?_getD]; simp
  rw [unlinkLeaves, if_pos rfl, hnx, hg]
  dsimp only
  rw [List.set_append_right _ _ (by omega), List.eraseIdx_eq_take_drop_succ]; simp

/-- the first leaf can only be absorbed to the right, the last only to the left -/
theorem unlinkLeaves_spec {pre post : List Leaf} {l : Leaf} (hc : LayerCore (pre ++ l :: post))
    (hl : l.ents = []) (hfull : AllFull (pre ++ post)) {right : Bool}
    (hr0 : pre = [] → right = true) (hrl : post = [] → right = false) :
    LayerCore (unlinkLeaves (pre ++ l :: post) pre.length right) ∧
    AllFull (unlinkLeaves (pre ++ l :: post) pre.length right) ∧
    ∀ x, x ∈ layerEnts (unlinkLeaves (pre ++ l :: post) pre.length right) ↔
      x ∈ layerEnts (pre ++ l :: post) := by
  have hents : ∀ x, x ∈ layerEnts (pre ++ l :: post) ↔ x ∈ layerEnts (pre ++ post) := by
    intro x
    rw [layerEnts_split, hl]
    simp [layerEnts, List.flatMap_append]
  cases right with
  | false =>
    rw [unlinkLeaves_left]
    exact ⟨((LayerCore.mid (fun e => by cases hr0 e)).mp hc).1, hfull, fun x => (hents x).symm⟩
  | true =>
    cases post with
    | nil => cases hrl rfl
    | cons nx post' =>
      rw [unlinkLeaves_right]
      have h2 := hfull nx (by simp)
      refine ⟨hc.unlink_right, (hfull.others (leaf := nx)).insert h2.1 h2.2, fun x => ?_⟩
      rw [hents, layerEnts_split, layerEnts_split]

/-- `t2` is well formed and answers every descent like `t1`. -/
structure Repaired (t1 t2 : Tree) : Prop where
  inv : Inv t2
  walk : ∀ q r, walkM (lookF (lay t2)) q r = walkM (lookF (lay t1)) q r

/-- `p` is the only layer that may hold an empty leaf; its chain keeps its entries -/
theorem Repaired.of_same_ents {t : Tree} (hnd : (t.map (·.pfx)).Nodup) (hF : FCore (lay t))
    {p : List UInt8} (hE : FEmpt (upd (lay t) p none)) {ls ls' : List Leaf} (hlay : lay t p = some ls)
    (hc' : LayerCore ls') (hE' : EmptOK p.isEmpty ls')
    (hm : ∀ x, x ∈ layerEnts ls' ↔ x ∈ layerEnts ls) : Repaired t (setLayer t ⟨p, ls'⟩) := by
  refine ⟨?_, ?_⟩
  · rw [inv_iff, lay_setLayer_mk]
    refine ⟨?_, hF.update hlay hc' (fun e he => Or.inl ((hm e).mp he)) (fun e he _ => (hm e).mpr he),
      ?_⟩
    · rw [pfx_setLayer_of_mem (by rw [← lay_isSome, hlay]; rfl)]; exact hnd
    · rw [← upd_upd (lay t) p none]; exact hE.update hE'
  · intro q r
    rw [lay_setLayer_mk]
    apply walkM_congr
    intro x k _ hk
    by_cases e : x = p
    · subst e
      exact lookF_congr_ents hlay (upd_same _ _ _) (hF.core _ _ hlay) hc' hk (fun y _ => hm y)
    · exact lookF_congr_chain (upd_other _ _ _ e) k

/-- the link `K` in layer `up` goes, and below it there was nothing to find: no descent notices -/
theorem walk_drop_dead_link {M1 M2 : List UInt8 → KT → Option Ent} {up : List UInt8} {K : KT}
    (hK : K.len = 9)
    (hsame : ∀ x k, k.WF → (x ≠ up ∨ k ≠ K) → M2 x k = M1 x k) (hdead : M2 up K = none)
    (hbelow : ∀ k, k.WF → M1 (up ++ K.slice) k = none) :
    ∀ (q : List UInt8) (r : Key), walkM M2 q r = walkM M1 q r := by
  -- where the two lookups differ, `M1` finds the link and then nothing
  have hpt : ∀ {q r}, q = up ∧ KT.ofKey r = K → walkM M2 q r = walkM M1 q r := by
    rintro q r ⟨rfl, hk⟩
    rw [walkM_none (hk ▸ hdead)]
    cases hm : M1 q (KT.ofKey r) with
    | none => rw [walkM_none hm]
    | some e =>
      have hl : r.length > 8 := Decidable.by_contra fun hl => ofKey_len_ne9 hl (hk ▸ hK)
      rw [walkM_long hm hl, walkM_none]
      rw [← ofKey_slice_long hl, hk]
      exact hbelow _ (KT.ofKey_wf _)
  have hs : ∀ {q r}, ¬ (q = up ∧ KT.ofKey r = K) → M2 q (KT.ofKey r) = M1 q (KT.ofKey r) :=
    fun h => hsame _ _ (KT.ofKey_wf _) (Decidable.not_and_iff_not_or_not.mp h)
  refine walkM_ind (M := M1) ?_ ?_ ?_
  · intro q r hm
    by_cases h : q = up ∧ KT.ofKey r = K
    · exact hpt h
    · rw [walkM_none hm, walkM_none ((hs h).trans hm)]
  · intro q r e hm hl
    by_cases h : q = up ∧ KT.ofKey r = K
    · exact hpt h
    · rw [walkM_short hm hl, walkM_short ((hs h).trans hm) hl]
  · intro q r e hm hl ih
    by_cases h : q = up ∧ KT.ofKey r = K
    · exact hpt h
    · rw [walkM_long hm hl, walkM_long ((hs h).trans hm) hl, ih]

theorem lookF_empty_layer {F : List UInt8 → Option (List Leaf)} {p : List UInt8} {ls : List Leaf}
    (h : F p = some ls) (hc : LayerCore ls) (he : layerEnts ls = []) {k : KT} (hk : k.WF) :
    lookF F p k = none := by
  rw [lookF_none_iff h hc hk, he]; intro e he; cases he

/-- Leaf `i` of layer `p` is empty, every other leaf of the storage is as `Inv` wants it, and `n`
    covers the layers above `p` the cascade can reach. -/
theorem handleEmpty_spec : ∀ (n : Nat) (t : Tree) (p : List UInt8) (i : Nat) (pre : List Leaf) (l : Leaf)
    (post : List Leaf), (t.map (·.pfx)).Nodup → FCore (lay t) → FEmpt (upd (lay t) p none) →
    lay t p = some (pre ++ l :: post) → pre.length = i → l.ents = [] → AllFull (pre ++ post) →
    p.length / 8 + 1 ≤ n → ∀ (dirs : List Bool) (used : Nat), Repaired t (handleEmpty t p i dirs used n).1 := by
  intro n
  induction n with
  | zero => intro t p i pre l post _ _ _ _ _ _ _ hn; omega
  | succ n ih =>
    intro t p i pre l post hnd hF hE hlay hi hl hfull hn dirs used
    have hL := findLayer_of_lay hlay
    have hc : LayerCore (pre ++ l :: post) := hF.core _ _ hlay
    by_cases hlen : (pre ++ l :: post).length ≤ 1
    · rw [handleEmpty, hL]
      dsimp only
      rw [if_pos hlen]
      simp only [List.length_append, List.length_cons] at hlen
      have h1 : pre = [] := List.eq_nil_of_length_eq_zero (by omega)
      have h2 : post = [] := List.eq_nil_of_length_eq_zero (by omega)
      subst h1 h2
      simp only [List.nil_append] at *
      have hle : layerEnts [l] = [] := by simp [layerEnts, hl]
      by_cases hp : p.isEmpty = true
      · -- the root of layer [] stays, flagged deleted
        rw [if_pos hp]
        refine Repaired.of_same_ents hnd hF hE hlay (ls' := [{ l with deleted := true }]) ?_ ?_ ?_
        · exact hc.replace (pre := []) (post := []) rfl (hc.leafOK (pre := []) (post := [])) (by simp)
        · intro y hy
          rw [List.mem_singleton] at hy; subst hy
          exact ⟨fun _ => ⟨hp, rfl⟩, fun _ => hl⟩
        · intro x; rw [hle]; simp [layerEnts, hl]
      · -- the layer disappears together with its link
        rw [if_neg hp]
        have hp0 : p ≠ [] := by intro e; apply hp; rw [e]; rfl
        have hp8 := hF.plen _ _ hlay
        obtain ⟨hsplit, hl8, hlenp⟩ := parent_split p hp8 hp0
        obtain ⟨us, hus, eK, heK, heKk⟩ := hF.up _ _ hlay hp0
        generalize hup : p.take (p.length - 8) = up at *
        generalize hsl : p.drop (p.length - 8) = sl at *
        have hupne : up ≠ p := by
          intro e; have := congrArg List.length e; omega
        have hU : findLayer (eraseLayer t p) up = some ⟨up, us⟩ := by
          rw [findLayer_eraseLayer, if_neg hupne]; exact findLayer_of_lay hus
        rw [hU]
        dsimp only
        have hcu : LayerCore us := hF.core _ _ hus
        have hKw : (⟨sl, 9⟩ : KT).WF := by rw [← heKk]; exact (layerEnts_wf hcu heK).1
        obtain ⟨pre', lf, post', hr⟩ := route_decomp hcu hKw
        rw [hr.getD, hr.set]
        have heq := hr.eq
        subst heq
        obtain ⟨a, b, h3⟩ := List.append_of_mem (hr.only hcu eK heK heKk)
        have hfil : lf.ents.filter (fun e => !(e.kt == (⟨sl, 9⟩ : KT))) = a ++ b := by
          rw [← heKk, h3]
          exact filter_erase (h3 ▸ hcu.leafOK.2.2.1)
        rw [hfil]
        obtain ⟨hcu', hmem⟩ := hcu.replace_ent h3 none (leaf' := { lf with ents := a ++ b }) rfl rfl
          (fun _ h => by cases h)
        simp only [reduceCtorEq, false_or, heKk] at hmem
        generalize hlf' : ({ lf with ents := a ++ b } : Leaf) = lf' at *
        generalize ht2 : setLayer (eraseLayer t p) { pfx := up, leaves := pre' ++ lf' :: post' } = t2
        have hview : lay t2 = upd (upd (lay t) p none) up (some (pre' ++ lf' :: post')) := by
          rw [← ht2, lay_setLayer, lay_eraseLayer]
        have hnd2 : (t2.map (·.pfx)).Nodup := by
          rw [← ht2, pfx_setLayer_of_mem (by simp only; rw [hU]; rfl)]
          exact nodup_eraseLayer hnd p
        have hF2 : FCore (lay t2) := by
          rw [hview, ← hup]
          refine hF.cascade hp0 hlay hle (by rw [hup]; exact hus) hcu' ?_
          rw [hsl]; exact hmem
        have hEu := hE up _ (by rw [upd_other _ _ _ hupne]; exact hus)
        have hwalk : ∀ q r, walkM (lookF (lay t2)) q r = walkM (lookF (lay t)) q r := by
          intro q r
          refine walk_drop_dead_link (up := up) (K := ⟨sl, 9⟩) rfl ?_ ?_ ?_ q r
          · intro x k hk hx
            by_cases e1 : x = up
            · subst e1
              have hkK : k ≠ ⟨sl, 9⟩ := hx.resolve_left (fun h => h rfl)
              refine lookF_congr_ents hus (by rw [hview]; exact upd_same _ _ _) hcu hcu' hk ?_
              intro y hy
              rw [hmem]
              exact ⟨fun h => h.1, fun h => ⟨h, by rw [hy]; exact hkK⟩⟩
            · by_cases e2 : x = p
              · subst e2
                rw [lookF_empty_layer hlay hc hle hk]
                apply lookF_of_none
                rw [hview, upd_other _ _ _ e1, upd_same]
              · apply lookF_congr_chain
                rw [hview, upd_other _ _ _ e1, upd_other _ _ _ e2]
          · rw [lookF_none_iff (by rw [hview]; exact upd_same _ _ _) hcu' hKw]
            intro e he; exact ((hmem e).mp he).2
          · intro k hk
            have : up ++ (⟨sl, 9⟩ : KT).slice = p := hsplit.symm
            rw [this]
            exact lookF_empty_layer hlay hc hle hk
        have hEoff : FEmpt (upd (lay t2) up none) := by
          rw [hview, upd_upd]; exact hE.erase up
        have hlf'e : lf'.ents = a ++ b := by rw [← hlf']
        by_cases hab : (a ++ b).isEmpty = true
        · rw [if_pos hab]
          have := ih t2 up _ pre' lf' post' hnd2 hF2 hEoff (by rw [hview]; exact upd_same _ _ _)
            hr.len (by rw [hlf'e]; simpa using hab) hEu.others_full (by omega) dirs used
          exact ⟨this.inv, fun q r => (this.walk q r).trans (hwalk q r)⟩
        · rw [if_neg hab]
          refine ⟨(inv_iff _).mpr ⟨hnd2, hF2, ?_⟩, hwalk⟩
          show FEmpt (lay t2)
          rw [hview]
          exact hE.update (hEu.replace (leaf' := lf') (by rw [h3]; simp)
            (by rw [hlf'e]; intro e; apply hab; rw [e]; rfl) (by rw [← hlf']))
    · -- unlink the empty leaf from its chain
      rw [handleEmpty_unlink hL hlen, ← hi]
      have hlen' : pre.length + post.length ≠ 0 := by
        simp only [List.length_append, List.length_cons] at hlen; omega
      obtain ⟨hcres, hfres, hmres⟩ := unlinkLeaves_spec hc hl hfull
        (right := if pre.length == 0 then true
          else if pre.length == (pre ++ l :: post).length - 1 then false else dirs.headD false)
        (fun e => by simp [e])
        (fun e => by
          subst e
          have : pre.length ≠ 0 := by simpa using hlen'
          simp [this])
      exact Repaired.of_same_ents hnd hF hE hlay hcres (hfres.emptOK _) hmres

end Yak.Tree
