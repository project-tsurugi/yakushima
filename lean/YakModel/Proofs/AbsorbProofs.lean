import YakModel.Proto.Absorb
/-!
# `Absorb`: proofs (D13, range absorption under a forward scan)

Every chain operation of `step?` is a rewrite of a zipper `pre ++ L :: post` obtained from
`splitAtId` / `splitOwner`, and the invariant is proved per shape of the rewrite.
Its scanner clause `ScOK` is phrased with the FENCE of the current leaf, not with positions:
keys below the fence are done, collected keys are below every stable key from the fence on. The
absorbing step lowers the fence over a range that holds no stored key, so both parts survive.
-/
namespace Yak.Proto.Absorb

theorem upd_same {α} (f : Nat → α) (t : Nat) (v : α) : upd f t v t = v := by simp [upd]
theorem upd_other {α} (f : Nat → α) (t t' : Nat) (v : α) (h : t' ≠ t) : upd f t v t' = f t' := by
  simp [upd, h]

theorem splitAtId_some {ch : List Leaf} {i : Nat} {pre : List Leaf} {L : Leaf} {post : List Leaf}
    (h : splitAtId ch i = some (pre, L, post)) :
    ch = pre ++ L :: post ∧ L.id = i ∧ ∀ M ∈ pre, M.id ≠ i := by
  fun_induction splitAtId ch i generalizing pre with
  | case1 => cases h
  | case2 X rest =>
    cases h
    exact ⟨rfl, rfl, fun _ h => nomatch h⟩
  | case3 X rest i hid p M q heq ih =>
    cases h
    obtain ⟨h1, h2, h3⟩ := ih heq
    exact ⟨congrArg (X :: ·) h1, h2, List.forall_mem_cons.2 ⟨hid, h3⟩⟩
  | case4 => cases h

theorem splitOwner_none {ch : List Leaf} {k : Nat} (h : splitOwner ch k = none) :
    ∀ M ∈ ch, k < M.lo := by
  fun_induction splitOwner ch k with
  | case1 => exact fun _ h => nomatch h
  | case2 => cases h
  | case3 => cases h
  | case4 X rest k heq hlo ih => exact List.forall_mem_cons.2 ⟨Nat.lt_of_not_le hlo, ih heq⟩

theorem splitOwner_some {ch : List Leaf} {k : Nat} {pre : List Leaf} {L : Leaf} {post : List Leaf}
    (h : splitOwner ch k = some (pre, L, post)) :
    ch = pre ++ L :: post ∧ L.lo ≤ k ∧ ∀ M ∈ post, k < M.lo := by
  fun_induction splitOwner ch k generalizing pre with
  | case1 => cases h
  | case2 X rest k p M q heq ih =>
    cases h
    obtain ⟨h1, h2⟩ := ih heq
    exact ⟨congrArg (X :: ·) h1, h2⟩
  | case3 X rest k heq hlo =>
    cases h
    exact ⟨rfl, hlo, splitOwner_none heq⟩
  | case4 => cases h

theorem pw_zip {α} {R : α → α → Prop} {pre : List α} {L : α} {post : List α} :
    (pre ++ L :: post).Pairwise R ↔
      pre.Pairwise R ∧ post.Pairwise R ∧ (∀ M ∈ pre, R M L) ∧ (∀ M ∈ post, R L M) ∧
        (∀ M ∈ pre, ∀ N ∈ post, R M N) := by
  simp only [List.pairwise_append, List.pairwise_cons, List.forall_mem_cons, forall_and]
  exact ⟨fun ⟨h1, ⟨h4, h2⟩, h3, h5⟩ => ⟨h1, h2, h3, h4, h5⟩,
    fun ⟨h1, h2, h3, h4, h5⟩ => ⟨h1, ⟨h4, h2⟩, h3, h5⟩⟩

theorem mem_zip {α} {x : α} {pre : List α} {L : α} {post : List α} :
    x ∈ pre ++ L :: post ↔ x ∈ pre ∨ x = L ∨ x ∈ post := by simp

theorem exists_mem_zip {α} {Q : α → Prop} {pre : List α} {L : α} {post : List α} :
    (∃ x ∈ pre ++ L :: post, Q x) ↔ (∃ x ∈ pre, Q x) ∨ Q L ∨ ∃ x ∈ post, Q x := by
  simp only [List.mem_append, List.mem_cons, or_and_right, exists_or, exists_eq_left]

/-- the first fence is that of the focus leaf or of a leaf before it -/
theorem head_zip {pre post post' : List Leaf} {L L' : Leaf}
    (hz : (pre ++ L :: post).head?.map (·.lo) = some 0) (h : L'.lo = L.lo) :
    (pre ++ L' :: post').head?.map (·.lo) = some 0 := by
  cases pre with
  | nil => simpa [h] using hz
  | cons => exact hz

theorem mem_insertSorted {k x : Nat} {l : List Nat} :
    x ∈ insertSorted k l ↔ x = k ∨ (x ∈ l ∧ x ≠ k) := by
  simp only [insertSorted, List.mem_append, List.mem_filter, List.mem_cons, decide_eq_true_eq]
  constructor
  · rintro (⟨h1, h2⟩ | rfl | ⟨h1, h2⟩)
    · exact Or.inr ⟨h1, by omega⟩
    · exact Or.inl rfl
    · exact Or.inr ⟨h1, by omega⟩
  · rintro (rfl | ⟨h1, h2⟩)
    · exact Or.inr (Or.inl rfl)
    · rcases Nat.lt_or_gt_of_ne h2 with h | h
      · exact Or.inl ⟨h1, h⟩
      · exact Or.inr (Or.inr ⟨h1, h⟩)

theorem insertSorted_pairwise {k : Nat} {l : List Nat} (h : l.Pairwise (· < ·)) :
    (insertSorted k l).Pairwise (· < ·) := by
  simp only [insertSorted, List.pairwise_append, List.pairwise_cons, List.mem_filter, List.mem_cons,
    decide_eq_true_eq]
  refine ⟨h.filter _, ⟨fun y hy => hy.2, h.filter _⟩, ?_⟩
  intro x hx y hy
  rcases hy with rfl | hy
  · exact hx.2
  · omega

theorem mem_removeKey {k x : Nat} {l : List Nat} : x ∈ removeKey k l ↔ x ∈ l ∧ x ≠ k := by
  simp [removeKey]

theorem removeKey_pairwise {k : Nat} {l : List Nat} (h : l.Pairwise (· < ·)) :
    (removeKey k l).Pairwise (· < ·) := h.filter _

theorem take_lt_drop {l : List Nat} (h : l.Pairwise (· < ·)) (n : Nat) :
    ∀ x ∈ l.take n, ∀ y ∈ l.drop n, x < y := by
  have h' := h
  rw [← List.take_append_drop n l, List.pairwise_append] at h'
  exact h'.2.2

theorem restart_at {sc : Nat → SPc} {i t a b : Nat} {res : List Nat} {cur : Nat}
    (h : restart sc i t = .at a b res cur) : sc t = .at a b res cur ∧ cur ≠ i := by
  unfold restart at h
  split at h
  · split at h
    · cases h
    · next heq hne =>
      cases h
      exact ⟨heq, hne⟩
  · next hna => exact absurd h (hna a b res cur)

theorem restart_cases (sc : Nat → SPc) (i t : Nat) :
    restart sc i t = sc t ∨ ∃ a b, restart sc i t = .want a b := by
  simp only [restart]
  split
  · next a b res cur heq =>
    split
    · exact Or.inr ⟨a, b, rfl⟩
    · exact Or.inl heq.symm
  · exact Or.inl rfl

theorem passes_range {c : Cfg} {a b : Nat} {res : List Nat} {k : Nat} (h : passes c a b res k = true) :
    a ≤ k ∧ k ≤ b := by
  simp only [passes, Bool.and_eq_true, decide_eq_true_eq] at h
  exact h.1

theorem passes_fix {c : Cfg} (hfix : c.fix = true) {a b : Nat} {res : List Nat} {k : Nat} :
    passes c a b res k = true ↔ (a ≤ k ∧ k ≤ b) ∧ ∀ r, res.getLast? = some r → r < k := by
  cases hl : res.getLast? <;> simp [passes, hfix, hl]

/-- one constructor per enabled branch of `step?`, with its guards except two that nothing below
    depends on: what decides between `remKey` and the two unlinks, and the direction `d` of an
    unlink. -/
inductive Step (c : Cfg) (s : State) : Event → State → Prop
  | ins {k pre L post} : splitOwner s.chain k = some (pre, L, post) → k ∉ L.keys →
      Step c s (.ins k) { s with chain := pre ++ { L with keys := insertSorted k L.keys } :: post
                                 touched := touch s.touched k }
  | split {i pre L post p up} : splitAtId s.chain i = some (pre, L, post) → 2 ≤ L.keys.length →
      L.keys.drop (L.keys.length / 2) = p :: up →
      Step c s (.split i) { s with chain := pre ++ { L with keys := L.keys.take (L.keys.length / 2) }
                                               :: ⟨s.nextId, p, p :: up⟩ :: post
                                   nextId := s.nextId + 1
                                   sc := restart s.sc i }
  | remKey {k d pre L post} : splitOwner s.chain k = some (pre, L, post) → k ∈ L.keys →
      Step c s (.rem k d) { s with chain := pre ++ { L with keys := removeKey k L.keys } :: post
                                   touched := touch s.touched k }
  | remRight {k d pre L R post} : splitOwner s.chain k = some (pre, L, R :: post) → k ∈ L.keys →
      Step c s (.rem k d) { s with chain := pre ++ { R with lo := L.lo } :: post
                                   retired := L.id :: s.retired
                                   sc := restart s.sc L.id
                                   touched := touch s.touched k }
  | remLeft {k d pre L post} : splitOwner s.chain k = some (pre, L, post) → k ∈ L.keys → pre ≠ [] →
      Step c s (.rem k d) { s with chain := pre ++ post
                                   retired := L.id :: s.retired
                                   sc := restart s.sc L.id
                                   touched := touch s.touched k }
  | sStart {t a b} : s.sc t = .idle →
      Step c s (.sStart t a b) { s with sc := upd s.sc t (.want a b), touched := upd s.touched t [] }
  | sEnter {t a b pre L post} : s.sc t = .want a b → splitOwner s.chain a = some (pre, L, post) →
      Step c s (.sEnter t) { s with sc := upd s.sc t (.at a b [] L.id) }
  | sVisit {t a b res cur pre C post pc} : s.sc t = .at a b res cur →
      splitAtId s.chain cur = some (pre, C, post) →
      ((∃ N post', post = N :: post' ∧ N.lo ≤ b ∧
          pc = .at a b (res ++ C.keys.filter (passes c a b res)) N.id) ∨
       ((∀ N ∈ post.head?, b < N.lo) ∧ pc = .fin a b (res ++ C.keys.filter (passes c a b res)))) →
      Step c s (.sVisit t) { s with sc := upd s.sc t pc }

theorem step?_some {c : Cfg} {s s' : State} {e : Event} (h : step? c s e = some s') :
    Step c s e s' := by
  -- `cases h` closes a branch that returns `none` and puts the new state in for `s'` in the others;
  -- after the first line one goal per event is left, in the order of `Event`
  cases e <;> simp only [step?] at h <;> split at h <;> try cases h
  · next pre L post heq =>
    split at h <;> cases h
    next hk => exact .ins heq (by simpa using hk)
  · next pre L post heq =>
    split at h <;> try cases h
    next hlen =>
    split at h <;> cases h
    next p up hd => exact .split heq hlen hd
  · next k d _ pre L post heq =>
    split at h <;> try cases h
    next hk =>
    have hk : k ∈ L.keys := by simpa using hk
    split at h
    · split at h <;> try cases h
      · exact .remRight heq hk
      · split at h <;> cases h
        next hpre => exact .remLeft heq hk (by simpa using hpre)
    · cases h
      exact .remKey heq hk
  · next heq => exact .sStart heq
  · next a b heq =>
    split at h <;> cases h
    next pre L post ho => exact .sEnter heq ho
  · next a b res cur heq =>
    split at h <;> try cases h
    next pre C post hs =>
    split at h
    · cases h
      exact .sVisit heq hs (Or.inr ⟨by simp, rfl⟩)
    · next N post' =>
      split at h <;> cases h
      · next hlo => exact .sVisit heq hs (Or.inl ⟨N, post', rfl, hlo, rfl⟩)
      · next hlo => exact .sVisit heq hs (Or.inr ⟨by simpa using hlo, rfl⟩)

def Before (L M : Leaf) : Prop := L.id ≠ M.id ∧ L.lo < M.lo ∧ ∀ k ∈ L.keys, k < M.lo

theorem Before.left {L L' M : Leaf} (h : Before L M) (hid : L'.id = L.id) (hlo : L'.lo ≤ L.lo)
    (hk : ∀ k ∈ L'.keys, k ∈ L.keys) : Before L' M :=
  ⟨hid ▸ h.1, Nat.lt_of_le_of_lt hlo h.2.1, fun k hk' => h.2.2 k (hk k hk')⟩

theorem Before.right {L M M' : Leaf} (h : Before L M) (hid : L.id ≠ M'.id) (hlo : M.lo ≤ M'.lo) :
    Before L M' :=
  ⟨hid, Nat.lt_of_lt_of_le h.2.1 hlo, fun k hk => Nat.lt_of_lt_of_le (h.2.2 k hk) hlo⟩

def LeafOK (L : Leaf) : Prop := (∀ k ∈ L.keys, L.lo ≤ k) ∧ L.keys.Pairwise (· < ·)

def ResOK (a b : Nat) (res : List Nat) : Prop := res.Pairwise (· < ·) ∧ ∀ r ∈ res, a ≤ r ∧ r ≤ b

def FenceOf (ch : List Leaf) (i f : Nat) : Prop := ∃ C ∈ ch, C.id = i ∧ C.lo = f

theorem fenceOf_zip {pre post : List Leaf} {L : Leaf} {i f : Nat} :
    FenceOf (pre ++ L :: post) i f ↔ FenceOf pre i f ∨ (L.id = i ∧ L.lo = f) ∨ FenceOf post i f :=
  exists_mem_zip

theorem presentC_zip {pre post : List Leaf} {L : Leaf} {k : Nat} :
    PresentC (pre ++ L :: post) k ↔ PresentC pre k ∨ k ∈ L.keys ∨ PresentC post k :=
  exists_mem_zip

/-- the scanner invariant (for the repaired scan). Its results are ascending and inside the
    interval. Standing on the leaf with fence `f`: every stable key of the interval below `f` has
    been collected, and everything collected is below every stable key from `f` on (so the repaired
    visit never skips a stable key). Returned: every stable key of the interval has been collected. -/
def ScOK (s : State) (t : Nat) : Prop :=
  match s.sc t with
  | .at a b res cur => ResOK a b res ∧ ∃ f, FenceOf s.chain cur f ∧
      (∀ k, Stable s t k → k < f → a ≤ k → k ≤ b → k ∈ res) ∧
      (∀ r ∈ res, ∀ k, Stable s t k → f ≤ k → r < k)
  | .fin a b res => ResOK a b res ∧ ∀ k, Stable s t k → a ≤ k → k ≤ b → k ∈ res
  | _ => True

/-- frame rule: the stable keys only shrink, the scanner is untouched or restarted, and the leaf it
    stands on keeps its id while its fence can only move down over a range without stable keys. -/
theorem scOK_frame {s s' : State} {t : Nat} (h : ScOK s t)
    (hst : ∀ k, Stable s' t k → Stable s t k)
    (hsc : s'.sc t = s.sc t ∨ ∃ a b, s'.sc t = .want a b)
    (hC : ∀ a b res cur, s'.sc t = .at a b res cur → ∀ f, FenceOf s.chain cur f →
        ∃ f', FenceOf s'.chain cur f' ∧ f' ≤ f ∧ ∀ k, Stable s' t k → f' ≤ k → f ≤ k) :
    ScOK s' t := by
  rcases hsc with hsc | ⟨a', b', hsc⟩
  · cases hp : s.sc t with
    | idle => simp only [ScOK, hsc, hp]
    | want a b => simp only [ScOK, hsc, hp]
    | «at» a b res cur =>
      simp only [ScOK, hp] at h
      simp only [ScOK, hsc, hp]
      obtain ⟨hres, f, hf, h2, h3⟩ := h
      obtain ⟨f', hf', hle, hgap⟩ := hC a b res cur (hsc.trans hp) f hf
      exact ⟨hres, f', hf', fun k hk hlt => h2 k (hst k hk) (Nat.lt_of_lt_of_le hlt hle),
        fun r hr k hk hle' => h3 r hr k (hst k hk) (hgap k hk hle')⟩
    | fin a b res =>
      simp only [ScOK, hp] at h
      simp only [ScOK, hsc, hp]
      exact ⟨h.1, fun k hk => h.2 k (hst k hk)⟩
  · simp only [ScOK, hsc]

/-- a step that touches `k` makes no key stable: what it stores anew is `k` -/
theorem stable_touch {s s' : State} {t k x : Nat} (htc : s'.touched = touch s.touched k)
    (hp : x ≠ k → Present s' x → Present s x) (h : Stable s' t x) : Stable s t x := by
  obtain ⟨hpx, hxt⟩ := h
  have hxk : x ≠ k ∧ x ∉ s.touched t := by simpa [htc, touch] using hxt
  exact ⟨hp hxk.1 hpx, hxk.2⟩

/-- the chain part holds for either scan, the scanner part for the repaired one -/
structure Inv (c : Cfg) (s : State) : Prop where
  zero : s.chain.head?.map (·.lo) = some 0
  order : s.chain.Pairwise Before
  leaf : ∀ L ∈ s.chain, LeafOK L ∧ L.id < s.nextId
  scan : c.fix = true → ∀ t, ScOK s t

theorem inv_init {c : Cfg} : Inv c init :=
  ⟨rfl, List.pairwise_singleton _ _, by simp [init, LeafOK], fun _ t => by simp only [ScOK, init]⟩

/-- the chain clauses seen from the leaf `L` -/
theorem inv_zip {c : Cfg} {s : State} (hi : Inv c s) {pre post : List Leaf} {L : Leaf}
    (hch : s.chain = pre ++ L :: post) :
    (pre ++ L :: post).head?.map (·.lo) = some 0 ∧
      (pre.Pairwise Before ∧ post.Pairwise Before ∧ (∀ M ∈ pre, Before M L) ∧
        (∀ M ∈ post, Before L M) ∧ ∀ M ∈ pre, ∀ N ∈ post, Before M N) ∧
      (∀ M ∈ pre, LeafOK M ∧ M.id < s.nextId) ∧ (LeafOK L ∧ L.id < s.nextId) ∧
        ∀ M ∈ post, LeafOK M ∧ M.id < s.nextId := by
  have hl := hi.leaf
  rw [hch, List.forall_mem_append, List.forall_mem_cons] at hl
  exact ⟨hch ▸ hi.zero, pw_zip.1 (hch ▸ hi.order), hl⟩

/-- `ins k` and a `rem k` that leaves a key: the owner of `k` gets keys `ks`, which are its old
    ones and possibly `k` -/
theorem inv_setKeys {c : Cfg} {s : State} (hi : Inv c s) {pre post : List Leaf} {L : Leaf} {k : Nat}
    (hso : splitOwner s.chain k = some (pre, L, post)) {ks : List Nat}
    (hs : L.keys.Pairwise (· < ·) → ks.Pairwise (· < ·)) (hks : ∀ x ∈ ks, x = k ∨ x ∈ L.keys) :
    Inv c { s with chain := pre ++ { L with keys := ks } :: post, touched := touch s.touched k } := by
  obtain ⟨hch, hlo, hpost⟩ := splitOwner_some hso
  obtain ⟨hz, ⟨ho1, ho2, ho3, ho4, ho5⟩, hl1, ⟨hL, hLid⟩, hl3⟩ := inv_zip hi hch
  refine ⟨head_zip hz rfl, pw_zip.2 ⟨ho1, ho2, ho3, fun M hM => ⟨(ho4 M hM).1, (ho4 M hM).2.1, ?_⟩, ho5⟩,
    List.forall_mem_append.2 ⟨hl1, List.forall_mem_cons.2 ⟨⟨⟨?_, hs hL.2⟩, hLid⟩, hl3⟩⟩,
    fun hfix t => scOK_frame (hi.scan hfix t) (fun x => stable_touch rfl fun hxk hp => ?_)
      (Or.inl rfl) ?_⟩
  · intro x hx
    rcases hks x hx with rfl | hx
    · exact hpost M hM
    · exact (ho4 M hM).2.2 x hx
  · intro x hx
    rcases hks x hx with rfl | hx
    · exact hlo
    · exact hL.1 x hx
  · rw [Present, hch]
    exact presentC_zip.2 ((presentC_zip.1 hp).imp_right
      (Or.imp_left fun hx => (hks x hx).resolve_left hxk))
  · intro a b res cur _ f hf
    rw [hch, fenceOf_zip] at hf
    exact ⟨f, fenceOf_zip.2 hf, Nat.le_refl _, fun _ _ h => h⟩

/-- `split`: the upper half of the keys of `L` moves to a new leaf right after it -/
theorem inv_split {c : Cfg} {s : State} (hi : Inv c s) {pre post : List Leaf} {L : Leaf} {p : Nat}
    {up : List Nat} (hch : s.chain = pre ++ L :: post) {n : Nat} (hd : L.keys.drop n = p :: up)
    (hne : L.keys.take n ≠ []) :
    Inv c { s with chain := pre ++ { L with keys := L.keys.take n } :: ⟨s.nextId, p, p :: up⟩ :: post
                   nextId := s.nextId + 1, sc := restart s.sc L.id } := by
  obtain ⟨hz, ⟨ho1, ho2, ho3, ho4, ho5⟩, hl1, ⟨⟨hLlo, hLs⟩, hLf⟩, hl3⟩ := inv_zip hi hch
  have hup : ∀ x ∈ p :: up, x ∈ L.keys := fun x hx => List.mem_of_mem_drop (hd ▸ hx)
  have hups : (p :: up).Pairwise (· < ·) := hd ▸ hLs.sublist (List.drop_sublist n _)
  have htd : ∀ x ∈ L.keys.take n, x < p := fun x hx =>
    take_lt_drop hLs n x hx p (hd ▸ List.mem_cons_self)
  have hlop : L.lo < p := by
    obtain ⟨x, hx⟩ := List.exists_mem_of_ne_nil _ hne
    exact Nat.lt_of_le_of_lt (hLlo x (List.mem_of_mem_take hx)) (htd x hx)
  have hold : ∀ M : Leaf, LeafOK M ∧ M.id < s.nextId → LeafOK M ∧ M.id < s.nextId + 1 :=
    fun M h => ⟨h.1, Nat.lt_succ_of_lt h.2⟩
  refine ⟨head_zip hz rfl, pw_zip.2 ⟨ho1, List.pairwise_cons.2 ⟨?_, ho2⟩, ho3,
      List.forall_mem_cons.2 ⟨⟨Nat.ne_of_lt hLf, hlop, htd⟩, ?_⟩, ?_⟩,
    List.forall_mem_append.2 ⟨fun M hM => hold M (hl1 M hM), List.forall_mem_cons.2 ⟨?_,
      List.forall_mem_cons.2 ⟨?_, fun M hM => hold M (hl3 M hM)⟩⟩⟩,
    fun hfix t => scOK_frame (hi.scan hfix t) ?_ (restart_cases _ _ _) ?_⟩
  · exact fun M hM => ⟨Nat.ne_of_gt (hl3 M hM).2, (ho4 M hM).2.2 p (hup p List.mem_cons_self),
      fun x hx => (ho4 M hM).2.2 x (hup x hx)⟩
  · exact fun M hM => (ho4 M hM).left rfl (Nat.le_refl _) fun x hx => List.mem_of_mem_take hx
  · intro M hM N hN
    rcases List.mem_cons.1 hN with rfl | hN
    · exact (ho3 M hM).right (Nat.ne_of_lt (hl1 M hM).2) (Nat.le_of_lt hlop)
    · exact ho5 M hM N hN
  · exact hold _ ⟨⟨fun x hx => hLlo x (List.mem_of_mem_take hx), hLs.sublist (List.take_sublist _ _)⟩,
      hLf⟩
  · refine ⟨⟨?_, hups⟩, Nat.lt_succ_self _⟩
    intro x hx
    rcases List.mem_cons.1 hx with rfl | hx
    · exact Nat.le_refl _
    · exact Nat.le_of_lt ((List.pairwise_cons.1 hups).1 x hx)
  · rintro x ⟨hp, hxt⟩
    refine ⟨?_, hxt⟩
    rw [Present, hch]
    rcases presentC_zip.1 hp with hp | hx | ⟨M, hM, hx⟩
    · exact presentC_zip.2 (Or.inl hp)
    · exact presentC_zip.2 (Or.inr (Or.inl (List.mem_of_mem_take hx)))
    · rcases List.mem_cons.1 hM with rfl | hM
      · exact presentC_zip.2 (Or.inr (Or.inl (hup x hx)))
      · exact presentC_zip.2 (Or.inr (Or.inr ⟨M, hM, hx⟩))
  · intro a b res cur _ f hf
    rw [hch] at hf
    refine ⟨f, fenceOf_zip.2 ((fenceOf_zip.1 hf).imp_right (Or.imp_right ?_)), Nat.le_refl _,
      fun _ _ h => h⟩
    exact fun ⟨C, hC, h⟩ => ⟨C, List.mem_cons_of_mem _ hC, h⟩

/-- the absorbing step: `E` is unlinked and the fence of its right neighbour `R` moves down to the
    fence of `E`; no stored key is left in between, so a scanner standing on `R` keeps its
    invariant. -/
theorem inv_unlinkR {c : Cfg} {s : State} (hi : Inv c s) {pre post : List Leaf} {E R : Leaf}
    (hch : s.chain = pre ++ E :: R :: post) (k : Nat) :
    Inv c { s with chain := pre ++ { R with lo := E.lo } :: post, retired := E.id :: s.retired
                   sc := restart s.sc E.id, touched := touch s.touched k } := by
  obtain ⟨hz, ⟨ho1, hoRp, ho3, hEp, ho5⟩, hl1, -, hlRp⟩ := inv_zip hi hch
  obtain ⟨hoR, ho2⟩ := List.pairwise_cons.1 hoRp
  obtain ⟨hER, ho4⟩ := List.forall_mem_cons.1 hEp
  obtain ⟨⟨⟨hRlo, hRs⟩, hRid⟩, hl3⟩ := List.forall_mem_cons.1 hlRp
  refine ⟨head_zip hz rfl,
    pw_zip.2 ⟨ho1, ho2, fun M hM => (ho3 M hM).right (ho5 M hM R List.mem_cons_self).1 (Nat.le_refl _),
      fun M hM => (hoR M hM).left rfl (Nat.le_of_lt hER.2.1) fun _ h => h,
      fun M hM N hN => ho5 M hM N (List.mem_cons_of_mem _ hN)⟩,
    List.forall_mem_append.2 ⟨hl1, List.forall_mem_cons.2 ⟨⟨⟨?_, hRs⟩, hRid⟩, hl3⟩⟩,
    fun hfix t => scOK_frame (hi.scan hfix t) (fun x => stable_touch rfl fun _ hp => ?_)
      (restart_cases _ _ _) ?_⟩
  · exact fun k hk => Nat.le_trans (Nat.le_of_lt hER.2.1) (hRlo k hk)
  · rw [Present, hch]
    rcases presentC_zip.1 hp with hp | hx | ⟨M, hM, hx⟩
    · exact presentC_zip.2 (Or.inl hp)
    · exact presentC_zip.2 (Or.inr (Or.inr ⟨R, List.mem_cons_self, hx⟩))
    · exact presentC_zip.2 (Or.inr (Or.inr ⟨M, List.mem_cons_of_mem _ hM, hx⟩))
  · intro a b res cur hat f hf
    rw [hch] at hf
    rcases fenceOf_zip.1 hf with hf | ⟨hid, -⟩ | ⟨C, hC, hid, rfl⟩
    · exact ⟨f, fenceOf_zip.2 (Or.inl hf), Nat.le_refl _, fun _ _ h => h⟩
    · exact absurd hid.symm (restart_at hat).2
    · rcases List.mem_cons.1 hC with rfl | hC
      · refine ⟨E.lo, fenceOf_zip.2 (Or.inr (Or.inl ⟨hid, rfl⟩)), Nat.le_of_lt hER.2.1, ?_⟩
        -- a key stored from the fence of `E` on is not in a leaf before `E`
        rintro x ⟨hp, -⟩ hle
        rcases presentC_zip.1 hp with ⟨M, hM, hx⟩ | hx | ⟨M, hM, hx⟩
        · exact absurd hle (Nat.not_le_of_lt ((ho3 M hM).2.2 x hx))
        · exact hRlo x hx
        · exact Nat.le_trans (Nat.le_of_lt (hoR M hM).2.1) ((hl3 M hM).1.1 x hx)
      · exact ⟨C.lo, fenceOf_zip.2 (Or.inr (Or.inr ⟨C, hC, hid, rfl⟩)), Nat.le_refl _,
          fun _ _ h => h⟩

/-- unlink `E`, its left neighbour absorbs the range: no fence changes -/
theorem inv_unlinkL {c : Cfg} {s : State} (hi : Inv c s) {pre post : List Leaf} {E : Leaf}
    (hch : s.chain = pre ++ E :: post) (hpre : pre ≠ []) (k : Nat) :
    Inv c { s with chain := pre ++ post, retired := E.id :: s.retired
                   sc := restart s.sc E.id, touched := touch s.touched k } := by
  obtain ⟨hz, ⟨ho1, ho2, ho3, ho4, ho5⟩, hl1, -, hl3⟩ := inv_zip hi hch
  refine ⟨?_, List.pairwise_append.2 ⟨ho1, ho2, ho5⟩,
    List.forall_mem_append.2 ⟨hl1, hl3⟩,
    fun hfix t => scOK_frame (hi.scan hfix t) (fun x => stable_touch rfl fun _ hp => ?_)
      (restart_cases _ _ _) ?_⟩
  · cases pre with
    | nil => exact absurd rfl hpre
    | cons P pre' => exact hz
  · obtain ⟨M, hM, hx⟩ := hp
    exact ⟨M, hch ▸ mem_zip.2 ((List.mem_append.1 hM).imp_right Or.inr), hx⟩
  · intro a b res cur hat f hf
    rw [hch] at hf
    refine ⟨f, ?_, Nat.le_refl _, fun _ _ h => h⟩
    rcases fenceOf_zip.1 hf with ⟨C, hC, h⟩ | ⟨hid, -⟩ | ⟨C, hC, h⟩
    · exact ⟨C, List.mem_append_left _ hC, h⟩
    · exact absurd hid.symm (restart_at hat).2
    · exact ⟨C, List.mem_append_right _ hC, h⟩

theorem le_getLast_of_sorted {l : List Nat} (h : l.Pairwise (· < ·)) {r : Nat}
    (hr : l.getLast? = some r) : ∀ x ∈ l, x ≤ r := by
  obtain ⟨l', rfl⟩ := List.getLast?_eq_some_iff.1 hr
  rw [List.pairwise_append] at h
  intro x hx
  rcases List.mem_append.1 hx with hx | hx
  · exact Nat.le_of_lt (h.2.2 x hx r (by simp))
  · simp only [List.mem_singleton] at hx
    omega

theorem resOK_visit {c : Cfg} (hfix : c.fix = true) {a b : Nat} {res ks : List Nat}
    (hr : ResOK a b res) (hks : ks.Pairwise (· < ·)) :
    ResOK a b (res ++ ks.filter (passes c a b res)) := by
  refine ⟨List.pairwise_append.2 ⟨hr.1, hks.filter _, ?_⟩, ?_⟩
  · intro x hx y hy
    cases hl : res.getLast? with
    | none =>
      rw [List.getLast?_eq_none_iff.1 hl] at hx
      cases hx
    | some l =>
      exact Nat.lt_of_le_of_lt (le_getLast_of_sorted hr.1 hl x hx)
        (((passes_fix hfix).1 (List.mem_filter.1 hy).2).2 l hl)
  · intro r hr'
    rcases List.mem_append.1 hr' with h | h
    · exact hr.2 r h
    · exact passes_range (List.mem_filter.1 h).2

theorem scOK_other {s s' : State} {t : Nat} (h : ScOK s t) (hch : s'.chain = s.chain)
    (hsc : s'.sc t = s.sc t) (htc : s'.touched t = s.touched t) : ScOK s' t := by
  simp only [ScOK, Stable, Present, hch, hsc, htc]
  exact h

theorem scOK_enter {s : State} {t a b : Nat} {pre post : List Leaf} {L : Leaf}
    (ho : splitOwner s.chain a = some (pre, L, post)) :
    ScOK { s with sc := upd s.sc t (.at a b [] L.id) } t := by
  obtain ⟨hch, hlo, -⟩ := splitOwner_some ho
  simp only [ScOK, upd_same]
  refine ⟨⟨List.Pairwise.nil, fun _ h => nomatch h⟩, L.lo,
    ⟨L, hch ▸ mem_zip.2 (Or.inr (Or.inl rfl)), rfl, rfl⟩, ?_, fun _ h => nomatch h⟩
  intro k _ h1 h2
  omega

/-- the visit: with the repair, every stable key of the visited leaf inside the interval passes the
    filter, because everything collected so far is below it. -/
theorem scOK_visit {c : Cfg} (hfix : c.fix = true) {s s' : State} (hi : Inv c s) {t : Nat}
    (h : ScOK s t) (hv : Step c s (.sVisit t) s') : ScOK s' t := by
  cases hv with | @sVisit _ a b res cur pre C post pc hsc hsp hpc => ?_
  obtain ⟨hch, hid, hpre⟩ := splitAtId_some hsp
  obtain ⟨-, ⟨-, hopost, ho3, ho4, -⟩, -, hC, hl3⟩ := inv_zip hi hch
  simp only [ScOK, hsc] at h
  obtain ⟨hres, f, hf, h2, h3⟩ := h
  -- the leaf of the invariant is the leaf found
  obtain rfl : f = C.lo := by
    rw [hch] at hf
    rcases fenceOf_zip.1 hf with ⟨M, hM, hMid, -⟩ | ⟨-, e⟩ | ⟨M, hM, hMid, -⟩
    · exact absurd hMid (hpre M hM)
    · exact e.symm
    · exact absurd (hid.trans hMid.symm) (ho4 M hM).1
  have hres' := resOK_visit (c := c) hfix hres hC.1.2
  -- after the visit every stable key of the interval below the next fence has been collected
  have hcov : ∀ x, Stable s t x → a ≤ x → x ≤ b → (∀ N ∈ post.head?, x < N.lo) →
      x ∈ res ++ C.keys.filter (passes c a b res) := by
    intro x hx h1 h2' hnext
    rw [List.mem_append]
    by_cases hxl : x < C.lo
    · exact Or.inl (h2 x hx hxl h1 h2')
    · obtain ⟨M, hM, hxM⟩ := hx.1
      rw [hch] at hM
      rcases mem_zip.1 hM with hM | rfl | hM
      · exact absurd ((ho3 M hM).2.2 x hxM) hxl
      · refine Or.inr (List.mem_filter.2 ⟨hxM, (passes_fix hfix).2 ⟨⟨h1, h2'⟩, fun r hr => ?_⟩⟩)
        exact h3 r (List.mem_of_getLast? hr) x hx (Nat.le_of_not_lt hxl)
      · -- a later leaf: its fence is at most `x` and at least the next fence
        have hMx := (hl3 M hM).1.1 x hxM
        cases post with
        | nil => cases hM
        | cons N post' =>
          have := hnext N rfl
          rw [List.pairwise_cons] at hopost
          rcases List.mem_cons.1 hM with rfl | hM
          · omega
          · have := (hopost.1 M hM).2.1
            omega
  rcases hpc with ⟨N, post', rfl, hNb, rfl⟩ | ⟨hend, rfl⟩
  · simp only [ScOK, upd_same]
    have hCN := ho4 N List.mem_cons_self
    refine ⟨hres', N.lo, ⟨N, hch ▸ mem_zip.2 (Or.inr (Or.inr List.mem_cons_self)), rfl, rfl⟩, ?_, ?_⟩
    · intro x hx hlt h1 h2'
      exact hcov x hx h1 h2' (fun N' hN' => Option.some.inj hN' ▸ hlt)
    · intro r hr x hx hle
      rcases List.mem_append.1 hr with hr | hr
      · exact h3 r hr x hx (Nat.le_trans (Nat.le_of_lt hCN.2.1) hle)
      · exact Nat.lt_of_lt_of_le (hCN.2.2 r (List.mem_filter.1 hr).1) hle
  · simp only [ScOK, upd_same]
    exact ⟨hres', fun x hx h1 h2' => hcov x hx h1 h2' fun N hN => Nat.lt_of_le_of_lt h2' (hend N hN)⟩

/-- a step of scanner `t'` that changes nothing but its own state -/
theorem inv_scanner {c : Cfg} {s : State} (hi : Inv c s) {t' : Nat} {pc : SPc} {tc : Nat → List Nat}
    (htc : ∀ t, t ≠ t' → tc t = s.touched t)
    (h : c.fix = true → ScOK { s with sc := upd s.sc t' pc, touched := tc } t') :
    Inv c { s with sc := upd s.sc t' pc, touched := tc } := by
  refine ⟨hi.zero, hi.order, hi.leaf, fun hfix t => ?_⟩
  by_cases ht : t = t'
  · exact ht ▸ h hfix
  · exact scOK_other (hi.scan hfix t) rfl (upd_other _ _ _ _ ht) (htc t ht)

theorem inv_step {c : Cfg} {s s' : State} {e : Event} (hi : Inv c s) (h : Step c s e s') :
    Inv c s' := by
  cases h with
  | ins ho _ =>
    exact inv_setKeys hi ho insertSorted_pairwise fun x hx => (mem_insertSorted.1 hx).imp_right And.left
  | split ho hlen hd =>
    obtain ⟨hch, rfl, -⟩ := splitAtId_some ho
    refine inv_split hi hch hd fun hnil => ?_
    have := congrArg List.length hnil
    rw [List.length_take, List.length_nil] at this
    omega
  | remKey ho _ =>
    exact inv_setKeys hi ho removeKey_pairwise fun x hx => Or.inr (mem_removeKey.1 hx).1
  | remRight ho _ => exact inv_unlinkR hi (splitOwner_some ho).1 _
  | remLeft ho _ hpre => exact inv_unlinkL hi (splitOwner_some ho).1 hpre _
  | sStart _ =>
    exact inv_scanner hi (fun _ ht => upd_other _ _ _ _ ht) fun _ => by simp only [ScOK, upd_same]
  | sEnter _ ho => exact inv_scanner hi (fun _ _ => rfl) fun _ => scOK_enter ho
  | sVisit hsc hsp hpc =>
    exact inv_scanner hi (fun _ _ => rfl) fun hfix => scOK_visit hfix hi (hi.scan hfix _) (.sVisit hsc hsp hpc)

theorem inv_reach {c : Cfg} {s : State} (h : Reach c s) : Inv c s := by
  induction h with
  | init => exact inv_init
  | step _ hs ih => exact inv_step ih (step?_some hs)

theorem chain_inv {c : Cfg} {s : State} (h : Reach c s) :
    s.chain ≠ [] ∧ (s.chain.map (·.id)).Nodup ∧ s.chain.Pairwise (fun L M => L.lo < M.lo) ∧
      (∀ L rest, s.chain = L :: rest → L.lo = 0) ∧
      (∀ L ∈ s.chain, ∀ k ∈ L.keys, L.lo ≤ k) ∧
      (∀ pre L N post, s.chain = pre ++ L :: N :: post → ∀ k ∈ L.keys, k < N.lo) ∧
      (∀ L ∈ s.chain, L.keys.Pairwise (· < ·)) := by
  have hi := inv_reach h
  have hz := hi.zero
  refine ⟨?_, ?_, hi.order.imp (fun h => h.2.1), ?_, fun L hL => (hi.leaf L hL).1.1, ?_,
    fun L hL => (hi.leaf L hL).1.2⟩
  · intro hnil
    rw [hnil] at hz
    cases hz
  · rw [List.Nodup, List.pairwise_map]
    exact hi.order.imp (fun h => h.1)
  · intro L rest hch
    rw [hch] at hz
    exact Option.some.inj hz
  · intro pre L N post hch k hk
    have ho := hi.order
    rw [hch, pw_zip] at ho
    exact (ho.2.2.2.1 N List.mem_cons_self).2.2 k hk

theorem scan_sorted_fixed {c : Cfg} (hfix : c.fix = true) {s : State} (h : Reach c s)
    {t a b : Nat} {res : List Nat} {cur : Nat}
    (hsc : s.sc t = .at a b res cur ∨ s.sc t = .fin a b res) :
    res.Pairwise (· < ·) ∧ ∀ r ∈ res, a ≤ r ∧ r ≤ b := by
  have hok := (inv_reach h).scan hfix t
  rcases hsc with hsc | hsc <;> simp only [ScOK, hsc] at hok <;> exact hok.1

/-- the repair loses nothing: a finished repaired scan of `[a, b]` reports every key of the
    interval that is stable for it, i.e. stored now and neither inserted nor removed since the
    scan started (so it was stored during the whole scan). Splits may happen meanwhile: they do not count as
    touching a key. -/
theorem stable_key_returned_fixed {c : Cfg} (hfix : c.fix = true) {s : State} (h : Reach c s)
    {t a b : Nat} {res : List Nat} (hsc : s.sc t = .fin a b res)
    {k : Nat} (ha : a ≤ k) (hb : k ≤ b) (hk : Stable s t k) : k ∈ res := by
  have hok := (inv_reach h).scan hfix t
  simp only [ScOK, hsc] at hok
  exact hok.2 k hk ha hb

theorem stable_key_returned_fixed' {c : Cfg} (hfix : c.fix = true) {s : State} (h : Reach c s)
    {t a b : Nat} {res : List Nat} (hsc : s.sc t = .fin a b res)
    {k : Nat} (ha : a ≤ k) (hb : k ≤ b) (hnt : k ∉ s.touched t) {L : Leaf} (hL : L ∈ s.chain)
    (hkL : k ∈ L.keys) : k ∈ res :=
  stable_key_returned_fixed hfix h hsc ha hb ⟨⟨L, hL, hkL⟩, hnt⟩

/-- the results held by scanner `t` (while standing on a leaf, or returned) -/
def Holds (s : State) (t a b : Nat) (res : List Nat) : Prop :=
  (∃ cur, s.sc t = .at a b res cur) ∨ s.sc t = .fin a b res

theorem holds_congr {s s' : State} {t a b : Nat} {res : List Nat} (h : s'.sc t = s.sc t) :
    Holds s' t a b res ↔ Holds s t a b res := by
  simp only [Holds, h]

theorem holds_upd {s s' : State} {t t' a b : Nat} {res : List Nat} {pc : SPc}
    (h : s'.sc = upd s.sc t' pc) (hh : Holds s' t a b res) :
    Holds s t a b res ∨ t = t' ∧ ((∃ cur, pc = .at a b res cur) ∨ pc = .fin a b res) := by
  by_cases ht : t = t'
  · subst ht
    exact Or.inr ⟨rfl, by simpa only [Holds, h, upd_same] using hh⟩
  · exact Or.inl ((holds_congr (h ▸ upd_other _ _ _ _ ht)).1 hh)

theorem holds_unique {s : State} {t a b a' b' : Nat} {res res' : List Nat} (h : Holds s t a b res)
    (h' : Holds s t a' b' res') : a = a' ∧ b = b' ∧ res = res' := by
  rcases h with ⟨cur, h⟩ | h <;> rcases h' with ⟨cur', h'⟩ | h' <;> rw [h] at h' <;> cases h' <;>
    exact ⟨rfl, rfl, rfl⟩

/-- results held after a restarting step were held before it (the restarted scanner holds none) -/
theorem holds_restart {s s' : State} {i t a b : Nat} {res : List Nat}
    (hsc : s'.sc = restart s.sc i) (h : Holds s' t a b res) : Holds s t a b res := by
  rcases restart_cases s.sc i t with e | ⟨a', b', e⟩
  · exact (holds_congr (hsc ▸ e)).1 h
  · rcases h with ⟨cur, h⟩ | h <;> rw [hsc, e] at h <;> cases h

theorem visit_appends {c : Cfg} {s s' : State} {t : Nat} (h : Step c s (.sVisit t) s') :
    ∃ a b res new, (∃ cur, s.sc t = .at a b res cur) ∧ Holds s' t a b (res ++ new) ∧
      ∀ r ∈ new, Present s r ∧ a ≤ r ∧ r ≤ b := by
  cases h with | @sVisit t a b res cur pre C post pc hsc hsp hpc => ?_
  have hC : C ∈ s.chain := (splitAtId_some hsp).1 ▸ mem_zip.2 (Or.inr (Or.inl rfl))
  refine ⟨a, b, res, C.keys.filter (passes c a b res), ⟨cur, hsc⟩, ?_, ?_⟩
  · rcases hpc with ⟨N, post', _, _, rfl⟩ | ⟨_, rfl⟩
    · exact Or.inl ⟨N.id, upd_same _ _ _⟩
    · exact Or.inr (upd_same _ _ _)
  · intro r hr
    rw [List.mem_filter] at hr
    exact ⟨⟨C, hC, hr.1⟩, passes_range hr.2⟩

/-- a visit appends only keys that are stored in the chain at that moment (and lie in the
    interval); this holds for either scan. -/
theorem visit_appends_present {c : Cfg} {s s' : State} {t : Nat}
    (h : step? c s (.sVisit t) = some s') :
    ∃ a b res new, (∃ cur, s.sc t = .at a b res cur) ∧ Holds s' t a b (res ++ new) ∧
      ∀ r ∈ new, Present s r ∧ a ≤ r ∧ r ≤ b :=
  visit_appends (step?_some h)

/-- the results scanner `t` holds after a step: those it held before, none (it has just arrived at
    a leaf), or those it held before and what its visit appended -/
theorem holds_step {c : Cfg} {s s' : State} {e : Event} (h : Step c s e s') {t a b : Nat}
    {res : List Nat} (hh : Holds s' t a b res) :
    Holds s t a b res ∨ res = [] ∨ ∃ res0 new, (∃ cur, s.sc t = .at a b res0 cur) ∧
      res = res0 ++ new ∧ ∀ r ∈ new, Present s r ∧ a ≤ r ∧ r ≤ b := by
  cases h with
  | ins | remKey => exact Or.inl hh
  | split | remRight | remLeft => exact Or.inl (holds_restart rfl hh)
  | sStart =>
    rcases holds_upd rfl hh with h0 | ⟨-, ⟨cur, e⟩ | e⟩
    · exact Or.inl h0
    · cases e
    · cases e
  | sEnter =>
    rcases holds_upd rfl hh with h0 | ⟨-, ⟨cur, e⟩ | e⟩
    · exact Or.inl h0
    · cases e
      exact Or.inr (Or.inl rfl)
    · cases e
  | sVisit hsc hsp hpc =>
    rcases holds_upd rfl hh with h0 | ⟨rfl, -⟩
    · exact Or.inl h0
    · obtain ⟨a0, b0, res0, new, hat, hh', hnew⟩ := visit_appends (.sVisit hsc hsp hpc)
      obtain ⟨rfl, rfl, rfl⟩ := holds_unique hh hh'
      exact Or.inr (Or.inr ⟨res0, new, hat, rfl, hnew⟩)

theorem reach_iff_hist {c : Cfg} {s : State} : Reach c s ↔ ∃ h, Hist c h s := by
  constructor
  · intro hr
    induction hr with
    | init => exact ⟨[], .init⟩
    | step _ hs ih =>
      obtain ⟨h, hh⟩ := ih
      exact ⟨_, .step hh hs⟩
  · rintro ⟨h, hh⟩
    induction hh with
    | init => exact .init
    | step _ hs ih => exact .step ih hs

theorem hist_reach {c : Cfg} {h : List State} {s : State} (hh : Hist c h s) :
    ∀ s1 ∈ h, Reach c s1 := by
  induction hh with
  | init => simp
  | step hh' _ ih =>
    intro s1 hs1
    rcases List.mem_cons.1 hs1 with rfl | hs1
    · exact reach_iff_hist.2 ⟨_, hh'⟩
    · exact ih s1 hs1

/-- every key a scanner holds (in particular every key of a finished scan) was stored in the
    chain in some earlier state `s1` of the run in which this scanner was already standing on a
    leaf with the same interval, that is: at some moment between its `sStart` and now (a thread
    scans at most once in this model, so there is no other scan of `t` to confuse it with). Holds
    for either scan. -/
theorem scan_result_was_present {c : Cfg} {h : List State} {s : State} (hh : Hist c h s)
    {t a b : Nat} {res : List Nat} (hsc : Holds s t a b res) :
    ∀ r ∈ res, ∃ s1 ∈ h, (∃ res1 cur1, s1.sc t = .at a b res1 cur1) ∧ Present s1 r := by
  induction hh generalizing res with
  | init => rcases hsc with ⟨cur, hsc⟩ | hsc <;> cases hsc
  | @step h s s' e hh' hs ih =>
    intro r hr
    have old : ∀ {res0}, Holds s t a b res0 → r ∈ res0 →
        ∃ s1 ∈ s :: h, (∃ res1 cur1, s1.sc t = .at a b res1 cur1) ∧ Present s1 r := fun h0 hr0 =>
      let ⟨s1, hs1, hp⟩ := ih h0 r hr0
      ⟨s1, List.mem_cons_of_mem _ hs1, hp⟩
    rcases holds_step (step?_some hs) hsc with h0 | rfl | ⟨res0, new, ⟨cur, hat⟩, rfl, hnew⟩
    · exact old h0 hr
    · cases hr
    · rcases List.mem_append.1 hr with hr | hr
      · exact old (Or.inl ⟨cur, hat⟩) hr
      · exact ⟨s, List.mem_cons_self, ⟨res0, cur, hat⟩, (hnew r hr).1⟩

/-- without the repair the scenario of D13 returns a list that is not ascending. -/
theorem D13_counterexample :
    scanOutcome { fix := false } D13_evs 0 = some (.fin 0 100 [3, 2, 11]) := by decide

theorem D13_not_sorted : ¬ [3, 2, 11].Pairwise (· < ·) := by decide

/-- the same events are accepted by the repaired model (so it does go through the
    absorbing scenario) and the result is ascending. -/
theorem D13_fixed_run :
    scanOutcome { fix := true } D13_evs 0 = some (.fin 0 100 [3, 11]) := by decide

/-- and when 3 is re-inserted before the second visit it is reported twice without the repair,
    once with it. -/
theorem D13_dup_counterexample :
    scanOutcome { fix := false } D13_dup_evs 0 = some (.fin 0 100 [3, 2, 3, 11]) := by decide

theorem D13_dup_fixed_run :
    scanOutcome { fix := true } D13_dup_evs 0 = some (.fin 0 100 [3, 11]) := by decide

theorem reach_exec {c : Cfg} {s : State} (hs : Reach c s) {evs : List Event} {s' : State}
    (h : exec c s evs = some s') : Reach c s' := by
  induction evs generalizing s with
  | nil =>
    cases h
    exact hs
  | cons e es ih =>
    obtain ⟨s1, he, h⟩ := Option.bind_eq_some_iff.1 h
    exact ih (.step hs he) h

/-- without the repair a state is reachable in which a finished scan holds a list that is not
    ascending: `scan_sorted_fixed` fails for `fix := false`. -/
theorem D13_reachable :
    ∃ s, Reach { fix := false } s ∧ s.sc 0 = .fin 0 100 [3, 2, 11] := by
  have h := D13_counterexample
  simp only [scanOutcome, Option.map_eq_some_iff] at h
  obtain ⟨s, hs, hsc⟩ := h
  exact ⟨s, reach_exec .init hs, hsc⟩

/-- non-vacuity of `stable_key_returned_fixed` on that run: at the end 11 is stable for scanner 0
    (stored, untouched) and reported; 3 and 2 were touched. -/
theorem D13_fixed_state :
    (exec { fix := true } init D13_evs).map (fun s => (s.chain, s.retired, s.touched 0, s.sc 0)) =
      some ([⟨1, 0, [2, 11]⟩], [0], [2, 3], .fin 0 100 [3, 11]) := by decide

end Yak.Proto.Absorb
