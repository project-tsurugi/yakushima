import YakModel.Scan
/-!
# Defining equations of the mutually recursive scan functions
-/
namespace Yak.Tree
open Yak

/-- `max_size` reached; `max = 0` means no limit -/
def full (max n : Nat) : Bool := max != 0 && decide (n ≥ max)

theorem full_false_iff {max n : Nat} : full max n = false ↔ (max = 0 ∨ n < max) := by
  unfold full
  by_cases h : max = 0
  · simp [h]
  · have : (max != 0) = true := by simp [h]
    simp only [this, Bool.true_and, decide_eq_false_iff_not]
    omega

theorem full_zero (max : Nat) : full max 0 = false := full_false_iff.mpr (by omega)

theorem full_true_iff {max n : Nat} : full max n = true ↔ (max ≠ 0 ∧ max ≤ n) := by
  unfold full
  simp

theorem scanLayer_some {cfg : Cfg} {t : Tree} {fuel : Nat} {p : List UInt8} {L : Layer}
    (hL : findLayer t p = some L) (lk : Key) (le : EP) (rk : Key) (re : EP) (max : Nat) (r2l : Bool) (acc : Acc) :
    scanLayer cfg t fuel p lk le rk re max r2l acc =
      scanLeaves cfg t fuel L (route (descentKT lk r2l) L.leaves)
        (L.leaves.drop (route (descentKT lk r2l) L.leaves)) lk le rk re max r2l acc := by
  rw [scanLayer, hL]

theorem scanLayer_none {cfg : Cfg} {t : Tree} {fuel : Nat} {p : List UInt8}
    (hL : findLayer t p = none) (lk : Key) (le : EP) (rk : Key) (re : EP) (max : Nat) (r2l : Bool) (acc : Acc) :
    scanLayer cfg t fuel p lk le rk re max r2l acc = (acc, .stop) := by
  rw [scanLayer, hL]

theorem scanLeaves_nil (cfg : Cfg) (t : Tree) (fuel : Nat) (L : Layer) (i : Nat)
    (lk : Key) (le : EP) (rk : Key) (re : EP) (max : Nat) (r2l : Bool) (acc : Acc) :
    scanLeaves cfg t fuel L i [] lk le rk re max r2l acc = (acc, .stop) := by
  rw [scanLeaves]

/-- leaving leaf `i`: it is recorded now unless a pushed tuple has done so (`tuple_pushed_num`) -/
def noted (L : Layer) (i : Nat) (pushed : Bool) (a : Acc) : Acc :=
  if pushed then a else { a with nodes := a.nodes ++ [mkRef L i] }

theorem noted_tuples (L : Layer) (i : Nat) (pushed : Bool) (a : Acc) : (noted L i pushed a).tuples = a.tuples := by
  unfold noted; split <;> rfl

/-- `scanLeaves` on `[]` returns what the `more.isEmpty` branch (`next == nullptr`) returns, so that
    test needs no case -/
theorem scanLeaves_cons (cfg : Cfg) (t : Tree) (fuel : Nat) (L : Layer) (i : Nat) (leaf : Leaf) (more : List Leaf)
    (lk : Key) (le : EP) (rk : Key) (re : EP) (max : Nat) (r2l : Bool) (acc : Acc) :
    scanLeaves cfg t fuel L i (leaf :: more) lk le rk re max r2l acc =
      match (scanEnts cfg t fuel L i (if r2l then leaf.ents.reverse else leaf.ents) lk le rk re max r2l acc false).2.2 with
      | .stop =>
        ((scanEnts cfg t fuel L i (if r2l then leaf.ents.reverse else leaf.ents) lk le rk re max r2l acc false).1, .stop)
      | .cont => scanLeaves cfg t fuel L (i + 1) more lk le rk re max r2l
          (noted L i
            (scanEnts cfg t fuel L i (if r2l then leaf.ents.reverse else leaf.ents) lk le rk re max r2l acc false).2.1
            (scanEnts cfg t fuel L i (if r2l then leaf.ents.reverse else leaf.ents) lk le rk re max r2l acc false).1) := by
  rw [scanLeaves]
  rcases scanEnts cfg t fuel L i (if r2l then leaf.ents.reverse else leaf.ents) lk le rk re max r2l acc false
    with ⟨acc1, pushed, flow⟩
  cases flow with
  | stop => rfl
  | cont =>
    cases more with
    | nil => rw [scanLeaves_nil]; rfl
    | cons m ms => rfl

/-- the key an entry stands for in `scan_border`: the layer's prefix and the bytes of its slice -/
def Layer.fullKey (L : Layer) (e : Ent) : Key := L.pfx ++ e.kt.slice.take (Nat.min e.kt.len 8)

theorem scanEnts_nil (cfg : Cfg) (t : Tree) (fuel : Nat) (L : Layer) (i : Nat)
    (lk : Key) (le : EP) (rk : Key) (re : EP) (max : Nat) (r2l : Bool) (acc : Acc) (pushed : Bool) :
    scanEnts cfg t fuel L i [] lk le rk re max r2l acc pushed = (acc, pushed, .cont) := by
  rw [scanEnts]

/-- the D2 repair: a stop that pushed no tuple of leaf `i` still records the leaf -/
def recFix (cfg : Cfg) (L : Layer) (i : Nat) (pushed : Bool) (a : Acc) : Acc :=
  if cfg.fixD2 && !pushed then { a with nodes := a.nodes ++ [mkRef L i] } else a

theorem recFix_tuples (cfg : Cfg) (L : Layer) (i : Nat) (pushed : Bool) (a : Acc) :
    (recFix cfg L i pushed a).tuples = a.tuples := by
  unfold recFix; split <;> rfl

theorem scanEnts_val {cfg t fuel L i es} {e : Ent} {v : Val} (hv : e.val = some v)
    (lk : Key) (le : EP) (rk : Key) (re : EP) (max : Nat) (r2l : Bool) (acc : Acc) (pushed : Bool) :
    scanEnts cfg t fuel L i (e :: es) lk le rk re max r2l acc pushed =
      if beforeLeft lk le e.kt.slice e.kt.len then scanEnts cfg t fuel L i es lk le rk re max r2l acc pushed
      else if withinRight rk re (L.fullKey e) then
        if full max (acc.tuples ++ [(L.fullKey e, v)]).length then
          (⟨acc.tuples ++ [(L.fullKey e, v)], acc.nodes ++ [mkRef L i]⟩, true, .stop)
        else scanEnts cfg t fuel L i es lk le rk re max r2l
          ⟨acc.tuples ++ [(L.fullKey e, v)], acc.nodes ++ [mkRef L i]⟩ true
      else (noted L i pushed acc, pushed, .stop) := by
  rw [scanEnts]
  simp only [hv]
  rfl

theorem scanEnts_link {cfg t fuel L i es} {e : Ent} (hv : e.val = none)
    (lk : Key) (le : EP) (rk : Key) (re : EP) (max : Nat) (r2l : Bool) (acc : Acc) (pushed : Bool) :
    scanEnts cfg t fuel L i (e :: es) lk le rk re max r2l acc pushed =
      match linkArgs lk le rk re e.kt.slice (L.fullKey e) with
      | .skip => scanEnts cfg t fuel L i es lk le rk re max r2l acc pushed
      | .stop => (recFix cfg L i pushed acc, pushed, .stop)
      | .go alk ale ark are =>
        match fuel with
        | 0 => (acc, pushed, .stop)
        | f + 1 =>
          if full max (scanLayer cfg t f (L.fullKey e) alk ale ark are max r2l acc).1.tuples.length then
            (recFix cfg L i pushed (scanLayer cfg t f (L.fullKey e) alk ale ark are max r2l acc).1, pushed, .stop)
          else scanEnts cfg t (f + 1) L i es lk le rk re max r2l
            (scanLayer cfg t f (L.fullKey e) alk ale ark are max r2l acc).1 pushed := by
  rw [scanEnts]
  simp only [hv]
  unfold Layer.fullKey
  cases linkArgs lk le rk re e.kt.slice (L.pfx ++ e.kt.slice.take (Nat.min e.kt.len 8)) with
  | skip => rfl
  | stop => rfl
  | go alk ale ark are =>
    cases fuel with
    | zero => rfl
    | succ f => rfl

end Yak.Tree
