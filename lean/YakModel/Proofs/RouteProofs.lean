import YakModel.Proofs.ChainOrd
/-!
# Descending through interior nodes reaches the leaf the fence rule picks

`descend t k` follows `interior_node::get_child_of` (`routeIdx`) from the root of a dumped B+-tree
to a border node. The sequential model has no interior nodes; it routes on the flattened chain
`chainOf t none` by "the last leaf whose fence is `≤ k`" (`byFence`). `descend_eq_byFence` says the
two arrive at the same leaf, for every well-formed key at or above the subtree's lower bound,
provided

* `RouteWF t` — every interior node has one more child than separators, and its separators are
  strictly increasing (`sortedKTs`) and well formed (all evaluated by `checkInteriors`), and
* `fencesSorted (chainOf t lo)` — the fences of the flattened chain are strictly increasing. The
  fences of `chainOf` *are* the separators in in-order, the first one being `lo`, so this one
  hypothesis says both that separators increase across the whole tree and that everything inside a
  subtree is above the bound inherited from above. It is evaluated by `checkChain`.

The closed example at the end includes a `RouteWF` tree with unsorted fences on which the two routings
differ, so `fencesSorted` cannot be dropped.
-/
namespace Yak.Route
open Yak Yak.Shape

theorem kt_lt_trans {a b c : KT} (ha : a.WF) (hb : b.WF) (hc : c.WF)
    (h1 : KT.lt a b = true) (h2 : KT.lt b c = true) : KT.lt a c = true := by
  rw [KT.lt_eq_ltSpec _ _ ha hb] at h1
  rw [KT.lt_eq_ltSpec _ _ hb hc] at h2
  rw [KT.lt_eq_ltSpec _ _ ha hc]
  exact KT.ltSpec_trans a b c h1 h2

theorem routeLeft_eq_lt (k s : KT) (hk : k.WF) (hs : s.WF) : routeLeft k s = KT.lt k s := by
  rw [routeLeft_eq k s hk hs, KT.lt_eq_ltSpec k s hk hs]

theorem byFence_append (A B : List DLeaf) (k : KT) :
    byFence (A ++ B) k = (byFence B k).or (byFence A k) := by
  unfold byFence
  rw [List.filter_append, List.getLast?_append]

theorem byFence_eq_none (B : List DLeaf) (k : KT) (h : ∀ l ∈ B, fenceLe l.fence k = false) :
    byFence B k = none := by
  unfold byFence
  have : B.filter (fun l => fenceLe l.fence k) = [] := by
    rw [List.filter_eq_nil_iff]
    intro l hl
    rw [h l hl]; simp
  rw [this]; rfl

theorem byFence_singleton (l : DLeaf) (k : KT) (h : fenceLe l.fence k = true) :
    byFence [l] k = some l := by
  simp [byFence, List.filter, h]

theorem byFence_cons_isSome (l : DLeaf) (rest : List DLeaf) (k : KT)
    (h : fenceLe l.fence k = true) : (byFence (l :: rest) k).isSome = true := by
  have : l :: rest = [l] ++ rest := rfl
  rw [this, byFence_append, byFence_singleton l k h]
  cases byFence rest k <;> rfl

def FencesWF (ch : List DLeaf) : Prop := ∀ l ∈ ch, ∀ f, l.fence = some f → f.WF

mutual
/-- the fences of the flattened chain are the inherited bound and separators, hence well formed. -/
theorem chainOf_fencesWF : ∀ (t : BTree) (lo : Option KT), RouteWF t →
    (∀ f, lo = some f → f.WF) → FencesWF (chainOf t lo)
  | .border v ents, lo, _, hlo => by
    intro l hl f hf
    simp only [chainOf, List.mem_singleton] at hl
    subst hl
    exact hlo f hf
  | .interior v ks cs, lo, h, hlo => by
    simp only [RouteWF] at h
    simp only [chainOf]
    exact chainOfChildren_fencesWF cs ks lo h.2.2.2 h.2.2.1 hlo

theorem chainOfChildren_fencesWF : ∀ (cs : List BTree) (ks : List KT) (lo : Option KT),
    RouteWFList cs → (∀ s ∈ ks, s.WF) → (∀ f, lo = some f → f.WF) →
    FencesWF (chainOfChildren cs ks lo)
  | [], _, _, _, _, _ => by
    intro l hl
    simp [chainOfChildren] at hl
  | c :: cs, ks, lo, h, hks, hlo => by
    simp only [RouteWFList] at h
    intro l hl
    simp only [chainOfChildren, List.mem_append] at hl
    rcases hl with hl | hl
    · exact chainOf_fencesWF c lo h.1 hlo l hl
    · refine chainOfChildren_fencesWF cs ks.tail ks.head? h.2 ?_ ?_ l hl
      · intro s hs
        exact hks s (List.mem_of_mem_tail hs)
      · intro f hf
        exact hks f (List.mem_of_head? hf)
end

/-- a key below the first fence of a sorted chain is below all its fences: the fence rule finds
    nothing there -/
theorem byFence_eq_none_of_lt {d : DLeaf} {ds : List DLeaf} {f k : KT}
    (hs : fencesSorted (d :: ds)) (hw : FencesWF (d :: ds)) (hd : d.fence = some f) (hk : k.WF)
    (hlt : KT.lt k f = true) : byFence (d :: ds) k = none := by
  apply byFence_eq_none
  intro l hl
  rcases List.mem_cons.mp hl with e | e
  · rw [e, hd]; simp [fenceLe, hlt]
  · have hgt := (List.pairwise_cons.mp hs).1 l e
    rw [hd] at hgt
    cases hf : l.fence with
    | none => rw [hf] at hgt; simp [fenceLt] at hgt
    | some g =>
      rw [hf] at hgt
      have : KT.lt k g = true := kt_lt_trans hk (hw d (by simp) f hd) (hw l hl g hf) hlt
        (by simpa [fenceLt] using hgt)
      simp [fenceLe, this]

/-- on a chain whose right part `d :: ds` is sorted the fence rule is decided at `d`'s fence `s`: a key
    below `s` is served left of `d`, any other key in `d :: ds` -/
theorem byFence_append_cons (A : List DLeaf) {d : DLeaf} {ds : List DLeaf} {s k : KT}
    (hs : fencesSorted (d :: ds)) (hw : FencesWF (d :: ds)) (hd : d.fence = some s) (hk : k.WF) :
    (routeLeft k s = true → byFence (A ++ d :: ds) k = byFence A k) ∧
    (routeLeft k s = false →
      fenceLe d.fence k = true ∧ byFence (A ++ d :: ds) k = byFence (d :: ds) k) := by
  rw [byFence_append, routeLeft_eq_lt k s hk (hw d (by simp) s hd)]
  refine ⟨fun hlt => ?_, fun hge => ?_⟩
  · rw [byFence_eq_none_of_lt hs hw hd hk hlt, Option.none_or]
  · have hle : fenceLe d.fence k = true := by simp [hd, fenceLe, hge]
    have hsome := byFence_cons_isSome d ds k hle
    cases hb : byFence (d :: ds) k with
    | none => rw [hb] at hsome; cases hsome
    | some x => exact ⟨hle, rfl⟩

mutual
theorem descend_eq_byFence : ∀ (t : BTree) (lo : Option KT) (k : KT), RouteWF t →
    fencesSorted (chainOf t lo) → k.WF → fenceLe lo k = true →
    descend t k = (byFence (chainOf t lo) k).map leafOut
  | .border v ents, lo, k, _, _, _, hle => by
    simp only [descend, chainOf]
    rw [byFence_singleton _ k hle]
    rfl
  | .interior v ks cs, lo, k, h, hs, hk, hle => by
    simp only [RouteWF] at h
    simp only [descend, chainOf] at hs ⊢
    exact descendAt_eq_byFence cs ks lo k h.2.2.2 h.1 h.2.2.1 hs hk hle

theorem descendAt_eq_byFence : ∀ (cs : List BTree) (ks : List KT) (lo : Option KT) (k : KT),
    RouteWFList cs → cs.length = ks.length + 1 → (∀ s ∈ ks, s.WF) →
    fencesSorted (chainOfChildren cs ks lo) → k.WF → fenceLe lo k = true →
    descendAt cs (routeIdx k ks) k = (byFence (chainOfChildren cs ks lo) k).map leafOut
  | [], _, _, _, _, hl, _, _, _, _ => by simp at hl
  | c :: cs, [], lo, k, h, hl, _, hs, hk, hle => by
    have : cs = [] := List.eq_nil_of_length_eq_zero (by simpa using hl)
    subst this
    simp only [RouteWFList] at h
    simp only [chainOfChildren, List.append_nil, routeIdx, descendAt] at hs ⊢
    exact descend_eq_byFence c lo k h.1 hs hk hle
  | c :: cs, s :: ks, lo, k, h, hl, hks, hs, hk, hle => by
    simp only [RouteWFList] at h
    have hsw : s.WF := hks s (by simp)
    have hks' : ∀ x ∈ ks, x.WF := fun x hx => hks x (by simp [hx])
    have hl' : cs.length = ks.length + 1 := by simpa using hl
    simp only [chainOfChildren, List.tail_cons, List.head?_cons] at hs ⊢
    unfold fencesSorted at hs
    rw [List.pairwise_append] at hs
    obtain ⟨hsA, hsB, _⟩ := hs
    obtain ⟨v', e', rest', hB, _⟩ := chainOfChildren_shape cs ks (some s) h.2 hl'
    have hwB : FencesWF (chainOfChildren cs ks (some s)) :=
      chainOfChildren_fencesWF cs ks (some s) h.2 hks' (by intro f hf; cases hf; exact hsw)
    obtain ⟨hlt, hge⟩ := byFence_append_cons (chainOf c lo) (s := s) (k := k)
      (by rw [← hB]; exact hsB) (by rw [← hB]; exact hwB) rfl hk
    rw [← hB] at hlt hge
    cases hr : routeLeft k s with
    | true =>
      rw [hlt hr]
      simp only [routeIdx, hr, if_true, descendAt]
      exact descend_eq_byFence c lo k h.1 hsA hk hle
    | false =>
      rw [(hge hr).2]
      simp only [routeIdx, hr, Bool.false_eq_true, if_false, descendAt]
      exact descendAt_eq_byFence cs ks (some s) k h.2 hl' hks' hsB hk (hge hr).1
end

/-- a well-formed tree is never left without a child: the chain of a `RouteWF` tree is non-empty
    and its first fence is the lower bound, so the fence rule finds a leaf. -/
theorem descend_isSome (t : BTree) (lo : Option KT) (k : KT) (h : RouteWF t)
    (hs : fencesSorted (chainOf t lo)) (hk : k.WF) (hle : fenceLe lo k = true) :
    (descend t k).isSome = true := by
  rw [descend_eq_byFence t lo k h hs hk hle, Option.isSome_map]
  obtain ⟨v, e, rest, hc, _⟩ := chainOf_shape t lo h
  rw [hc]
  exact byFence_cons_isSome _ _ k hle

theorem checkLayer_routes (pfx : List UInt8) (t : BTree) (k : KT)
    (h : checkLayer pfx t = true) (hk : k.WF) :
    descend t k = (byFence (chainOf t none) k).map leafOut := by
  obtain ⟨hi, hord⟩ := chainOrd_of_checkLayer pfx t h
  exact descend_eq_byFence t none k (routeWF_of_check t hi) hord.fencesSorted hk rfl

theorem checkLayer_descend_isSome (pfx : List UInt8) (t : BTree) (k : KT)
    (h : checkLayer pfx t = true) (hk : k.WF) : (descend t k).isSome = true := by
  obtain ⟨hi, hord⟩ := chainOrd_of_checkLayer pfx t h
  exact descend_isSome t none k (routeWF_of_check t hi) hord.fencesSorted hk rfl

/-! ### the fence rule is the model's `Tree.route`

`Tree.route k leaves` (the routing function of the sequential model) walks the chain from the left
and stops in front of the first fence the key is left of (`routeLeft`), ignoring the first leaf's
fence. On a chain with increasing, well-formed fences that is the index of the last leaf whose fence
is `≤ k`. Only the fences matter, so the statement is about any model chain `ls` carrying the same
fences as the dumped chain (what `SeqCheck.treeMatches` compares). -/

theorem byFence_eq_routeFrom (k : KT) (hk : k.WF) : ∀ (rest : List DLeaf) (c : DLeaf)
    (ls : List Tree.Leaf), ls.map (·.fence) = rest.map (·.fence) → fencesSorted (c :: rest) →
    FencesWF rest → fenceLe c.fence k = true →
    byFence (c :: rest) k = (c :: rest)[Tree.routeFrom k ls]?
  | [], c, ls, hf, _, _, hle => by
    have : ls = [] := by simpa using hf
    subst this
    rw [byFence_singleton c k hle]
    rfl
  | d :: ds, c, ls, hf, hs, hw, hle => by
    cases ls with
    | nil => simp at hf
    | cons m ms =>
      simp only [List.map_cons, List.cons.injEq] at hf
      obtain ⟨hmf, hf'⟩ := hf
      unfold fencesSorted at hs
      rw [List.pairwise_cons] at hs
      obtain ⟨hc, hs'⟩ := hs
      obtain ⟨f, hd⟩ : ∃ f, d.fence = some f := by
        have := hc d (by simp)
        cases hd : d.fence with
        | none => rw [hd] at this; cases c.fence <;> simp [fenceLt] at this
        | some f => exact ⟨f, rfl⟩
      obtain ⟨hlt, hge⟩ := byFence_append_cons [c] hs' hw hd hk
      rw [hd] at hmf
      rw [show c :: d :: ds = [c] ++ d :: ds from rfl]
      cases hr : routeLeft k f with
      | true =>
        rw [hlt hr, byFence_singleton c k hle]
        simp [Tree.routeFrom, hmf, hr]
      | false =>
        rw [(hge hr).2, byFence_eq_routeFrom k hk ds d ms hf' hs'
          (fun l hl => hw l (List.mem_cons_of_mem _ hl)) (hge hr).1]
        simp [Tree.routeFrom, hmf, hr]

theorem byFence_eq_route (ls : List Tree.Leaf) (ch : List DLeaf) (k : KT)
    (hf : ls.map (·.fence) = ch.map (·.fence)) (hs : fencesSorted ch) (hw : FencesWF ch)
    (hk : k.WF) (h0 : ∀ c ∈ ch.head?, fenceLe c.fence k = true) :
    byFence ch k = ch[Tree.route k ls]? := by
  cases ch with
  | nil =>
    have : ls = [] := by simpa using hf
    subst this
    rfl
  | cons c rest =>
    cases ls with
    | nil => simp at hf
    | cons m ms =>
      simp only [List.map_cons, List.cons.injEq] at hf
      exact byFence_eq_routeFrom k hk rest c ms hf.2 hs
        (fun l hl => hw l (List.mem_cons_of_mem _ hl)) (h0 c (by simp))

theorem checkLayer_routes_model (pfx : List UInt8) (t : BTree) (ls : List Tree.Leaf) (k : KT)
    (h : checkLayer pfx t = true) (hf : ls.map (·.fence) = (chainOf t none).map (·.fence))
    (hk : k.WF) :
    descend t k = ((chainOf t none)[Tree.route k ls]?).map leafOut := by
  rw [checkLayer_routes pfx t k h hk]
  obtain ⟨hi, hord⟩ := chainOrd_of_checkLayer pfx t h
  obtain ⟨v, e, rest, hc, _⟩ := chainOf_shape t none (routeWF_of_check t hi)
  rw [byFence_eq_route ls (chainOf t none) k hf hord.fencesSorted
    (fun l hl f hf => ((hord.leaf l hl).fence f hf).1) hk
    (by rw [hc]; intro c hc'; cases hc'; rfl)]

/-! ### a closed example (non-vacuity)

Two levels of interior nodes over seven border nodes. The separators have different lengths:
`("b",1)`, `("d\0",2)` (a trailing zero byte that is part of the key), `("d\0\0\0",4)` (same bytes,
longer), `("mmmmmmmm",8)`, the link tuple `("mmmmmmmm",9)` with the same slice, and `("zz",2)`.
Leaf `i` carries `vins = i` so that the routed leaf can be read off. -/
namespace Example

def kt (bs : List UInt8) (n : Nat) : KT := ⟨padTo 8 bs, n⟩
def ev (bs : List UInt8) (n : Nat) : DEnt := ⟨kt bs n, some ⟨1, 7, 8⟩⟩
def el (bs : List UInt8) : DEnt := ⟨kt bs 9, none⟩
def m8 : List UInt8 := [0x6d, 0x6d, 0x6d, 0x6d, 0x6d, 0x6d, 0x6d, 0x6d]
def z8 : List UInt8 := [0x7a, 0x7a, 0x7a, 0x7a, 0x7a, 0x7a, 0x7a, 0x7a]

def sepA : KT := kt [0x62] 1
def sepR1 : KT := kt [0x64, 0] 2
def sepB : KT := kt [0x64, 0, 0, 0] 4
def sepR2 : KT := kt m8 8
def sepC : KT := kt m8 9
def sepD : KT := kt [0x7a, 0x7a] 2

def leaf0 : List DEnt := [ev [] 0, ev [0x61] 1]
def leaf1 : List DEnt := [ev [0x62] 1, ev [0x63] 1]
def leaf2 : List DEnt := [ev [0x64, 0] 2, ev [0x64, 0, 0] 3]
def leaf3 : List DEnt := [ev [0x64, 0, 0, 0] 4, ev [0x65] 1]
def leaf4 : List DEnt := [ev m8 8]
def leaf5 : List DEnt := [el m8, ev [0x6e] 1]
def leaf6 : List DEnt := [ev [0x7a, 0x7a] 2, el z8]

def tree : BTree :=
  .interior ⟨0, 0, 16⟩ [sepR1, sepR2]
    [ .interior ⟨0, 0, 0⟩ [sepA]
        [ .border ⟨0, 0, 32⟩ leaf0,
          .border ⟨1, 0, 32⟩ leaf1 ],
      .interior ⟨0, 0, 0⟩ [sepB]
        [ .border ⟨2, 0, 32⟩ leaf2,
          .border ⟨3, 0, 32⟩ leaf3 ],
      .interior ⟨0, 0, 0⟩ [sepC, sepD]
        [ .border ⟨4, 0, 32⟩ leaf4,
          .border ⟨5, 0, 32⟩ leaf5,
          .border ⟨6, 0, 32⟩ leaf6 ] ]

theorem tree_checked : checkLayer [] tree = true := by decide +kernel

theorem tree_chain_fences :
    (chainOf tree none).map (·.fence) =
      [none, some sepA, some sepR1, some sepB, some sepR2, some sepC, some sepD] := by decide +kernel

/-- below the first separator -/
theorem descend_below : descend tree (kt [0x61] 1) = some (⟨0, 0, 32⟩, leaf0) := by decide +kernel
/-- the empty key (length 0) -/
theorem descend_empty : descend tree (kt [] 0) = some (⟨0, 0, 32⟩, leaf0) := by decide +kernel
/-- equal to a separator (root level, trailing zero byte): goes right of it -/
theorem descend_eq_sep : descend tree sepR1 = some (⟨2, 0, 32⟩, leaf2) := by decide +kernel
/-- `("d\0\0",3)` lies between `("d\0",2)` and `("d\0\0\0",4)` -/
theorem descend_between : descend tree (kt [0x64, 0, 0] 3) = some (⟨2, 0, 32⟩, leaf2) := by decide +kernel
/-- `("mmmmmmmm",8)` and the link `("mmmmmmmm",9)` are separated -/
theorem descend_len8 : descend tree sepR2 = some (⟨4, 0, 32⟩, leaf4) := by decide +kernel
theorem descend_link : descend tree sepC = some (⟨5, 0, 32⟩, leaf5) := by decide +kernel
/-- above the last separator -/
theorem descend_above : descend tree (kt [0x7a, 0x7a, 0x7a] 3) = some (⟨6, 0, 32⟩, leaf6) := by
  decide +kernel

/-- the general theorem instantiated (not by evaluation) -/
theorem tree_routes (k : KT) (hk : k.WF) :
    descend tree k = (byFence (chainOf tree none) k).map leafOut :=
  checkLayer_routes [] tree k tree_checked hk

/-- `RouteWF` alone is not enough: the separator `("a",1)` inside the right child is below the
    root separator `("m",1)`. `checkInteriors` accepts the tree, the chain's fences are not
    increasing, and the descent for `("b",1)` (left child) differs from the fence rule (last leaf). -/
def badTree : BTree :=
  .interior ⟨0, 0, 16⟩ [kt [0x6d] 1]
    [ .border ⟨0, 0, 32⟩ [],
      .interior ⟨0, 0, 0⟩ [kt [0x61] 1]
        [ .border ⟨1, 0, 32⟩ [],
          .border ⟨2, 0, 32⟩ [] ] ]

theorem badTree_interiors : checkInteriors badTree = true := by decide +kernel
theorem badTree_not_sorted : ¬ fencesSorted (chainOf badTree none) := by decide +kernel
theorem badTree_differs :
    descend badTree (kt [0x62] 1) = some (⟨0, 0, 32⟩, []) ∧
    (byFence (chainOf badTree none) (kt [0x62] 1)).map leafOut = some (⟨2, 0, 32⟩, []) := by
  decide +kernel

end Example

end Yak.Route
