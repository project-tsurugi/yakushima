import YakModel.VersCheck
/-!
# What the version-word monitor's acceptance means

`VersCheck.classify old new = some k` is the monitor's acceptance of one observed compare-exchange.
`classify_sound` says what an accepted transition can have done: the new word is the result of that
class's operation on the old one, and nothing else. `YakProps/C17.lean` reads this off in terms of
the decoded fields.
-/
namespace Yak.VersCheck
open Yak.Version

theorem exists_bool_eq {n : W} {f : Bool → W} : (∃ tf, n = f tf) ↔ n = f true ∨ n = f false := by
  rw [Bool.exists_bool, or_comm]

/-- each class is returned by one branch of `classify` only, under that branch's test -/
theorem classify_sound {o n : W} {k : Kind} (h : classify o n = some k) :
    match k with
    | .lock => (decode o).locked = false ∧ n = lockW o
    | .unlock => (decode o).locked = true ∧ n = unlockW o
    | .same => n = o
    | .flag => (∃ tf, n = setBorderW o tf) ∨ (∃ tf, n = setDeletedW o tf) ∨
        (∃ tf, n = setInsertingW o tf) ∨ (∃ tf, n = setRootW o tf) ∨ (∃ tf, n = setSplittingW o tf)
    | .inc => n = incVinsertW o := by
  unfold classify at h
  split at h
  next hc => cases h; simpa using hc
  split at h
  next hc => cases h; simpa using hc
  split at h
  next hc => cases h; simpa using hc
  split at h
  next hc =>
    cases h
    simpa only [exists_bool_eq, Bool.or_eq_true, beq_iff_eq, or_assoc] using hc
  split at h
  next hc => cases h; simpa using hc
  cases h

end Yak.VersCheck
