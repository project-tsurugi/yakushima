import YakModel.Proofs.TreeProofs
/-!
# C05, point reads: the leaf a missing `get` reports is the leaf a later insert modifies

That leaf is the *landing* leaf of the key: what `put` reports as `modified` when it inserts.
-/
namespace Yak.Tree
open Yak

theorem insertInto_modified (t : Tree) (L : Layer) (i : Nat) (rest : Key) (v : Val) :
    (insertInto t L i rest v).modified = some (L.pfx, i) := by
  unfold insertInto
  dsimp only
  split <;> rfl

/-- `get` and `put` walk the same path (`walkM … = none`: the key is absent below `p`) -/
theorem getAt_miss_report {t : Tree} (hF : FCore (lay t)) (v : Val) (u : Bool) :
    ∀ (rest : Key) (p : List UInt8), (lay t p).isSome → walkM (lookF (lay t)) p rest = none →
    ∃ L i, findLayer t L.pfx = some L ∧ i < L.leaves.length ∧
      (getAt t p rest).node = some (mkRef L i) ∧ (putAt t p rest v u).modified = some (L.pfx, i) := by
  refine descent hF ?_ ?_ ?_
  · intro p L rest hL hg _
    obtain ⟨pre, leaf, post, hr⟩ := route_decomp (hF.core _ _ (lay_of_findLayer hL)) (KT.ofKey_wf rest)
    refine ⟨L, route (KT.ofKey rest) L.leaves, by rw [(findLayer_some hL).1]; exact hL, ?_, ?_, ?_⟩
    · rw [← hr.len, hr.eq]; simp
    · rw [getAt_step hL, hg]
    · rw [putAt_of_miss hL hg]; exact insertInto_modified _ _ _ _ _
  · intro p L rest e hL hg hl hw
    have hlook := (lookF_lay hL (KT.ofKey rest)).trans hg
    rw [walkM_short hlook hl] at hw
    exact absurd hw (val_of_lookF_short hF hlook hl)
  · intro p L rest e hL hg hl ih hw
    rw [walkM_long ((lookF_lay hL (KT.ofKey rest)).trans hg) hl] at hw
    rw [getAt_step hL, hg, putAt_of_link hL hg hl]
    simp only [if_pos hl]
    exact ih hw

theorem insert_bumps_landing (t : Tree) (k : Key) (v : Val) (h : Inv t) (hk : (get t k).val = none) :
    ∃ p i L L' l l', (put t k v false).modified = some (p, i) ∧ findLayer t p = some L ∧
      L.leaves[i]? = some l ∧
      findLayer (put t k v false).tree p = some L' ∧ L'.leaves[i]? = some l' ∧ l'.vins = l.vins + 1 := by
  obtain ⟨p, i, L, leaf, h1, h2, h3, _, L', h5, h6⟩ := put_insert_reports t k v false h hk
  have hi : i < L.leaves.length := by
    rcases Nat.lt_or_ge i L.leaves.length with h | h
    · exact h
    · rw [List.getElem?_eq_none h] at h3; cases h3
  rcases h6 with ⟨_, leaf', e1, e2, _⟩ | ⟨_, a, b, e1, e2, _⟩
  · refine ⟨p, i, L, L', leaf, leaf', h1, h2, h3, h5, ?_, e2⟩
    rw [e1]; simp [hi]
  · refine ⟨p, i, L, L', leaf, a, h1, h2, h3, h5, ?_, e2⟩
    rw [e1]
    have hlen : (L.leaves.take i).length = i := by simp only [List.length_take]; omega
    rw [List.append_assoc, List.getElem?_append_right (by omega), hlen]
    simp

theorem get_miss_reports_landing (t : Tree) (k : Key) (v : Val) (h : Inv t) (hk : (get t k).val = none) :
    ∃ r, (get t k).node = some r ∧ (put t k v false).modified = some (r.pfx, r.idx) ∧
      ∃ L l, findLayer t r.pfx = some L ∧ L.leaves[r.idx]? = some l ∧ r.vins = l.vins ∧
        r.vsplit = l.vsplit := by
  obtain ⟨_, hF, _⟩ := (inv_iff t).mp h
  unfold get at hk
  rw [getAt_val] at hk
  obtain ⟨L, i, hL, hi, hg, hp⟩ := getAt_miss_report hF v false k [] hF.root hk
  have hl : L.leaves.getD i emptyLeaf = L.leaves[i] := (List.getElem_eq_getD emptyLeaf).symm
  exact ⟨mkRef L i, hg, hp, L, L.leaves[i], hL, List.getElem?_eq_getElem hi,
    congrArg Leaf.vins hl, congrArg Leaf.vsplit hl⟩

end Yak.Tree
