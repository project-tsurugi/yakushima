import YakModel.Proofs.LeafLin
/-!
The induction over `Reach` carries the three invariants together (`Good`): each needs the ones
before it at every step.
-/
namespace Yak.Proto.Leaf
open Event OpKind

/-- put 1; T1 starts `get 1` and validates its lookup; T2 removes key 1 up to the clear; T1 loads the
    cleared cell; T2 finishes (no counter bump); T1's final check passes: OK with the null value. -/
def d1Trace : List Event :=
  [invoke 0 (put 1 7 false), ldVer 0, ldPerm 0, ldKeys 0, ldVer2 0, lock 0, setIns 0, stKey 0, stVal 0,
   stPerm 0, unlock 0, ret 0,
   invoke 1 (get 1), ldVer 1, ldPerm 1, ldKeys 1, ldVer2 1,
   invoke 2 (remove 1), ldVer 2, ldPerm 2, ldKeys 2, ldVer2 2, lock 2, relook 2, clearVal 2,
   ldVal 1,
   stPerm 2, unlock 2, ret 2,
   ldVer3 1, ret 1]

theorem d1_hist : (exec cfgD1 init d1Trace).map (·.hist) =
    some [(0, .put 1 7 false, .ok none, 0, 11), (2, .remove 1, .ok none, 17, 28),
          (1, .get 1, .ok none, 12, 30)] := by
  decide

theorem leaf_D1_counterexample :
    ∃ s, Reach cfgD1 s ∧ ∃ t k i j, (t, OpKind.get k, Res.ok none, i, j) ∈ s.hist := by
  obtain ⟨s, hs, hh⟩ := Option.map_eq_some_iff.mp d1_hist
  exact ⟨s, reach_exec Reach.init _ _ hs, 1, 1, 12, 30, by rw [hh]; simp⟩

def Good (c : Cfg) (s : State) : Prop :=
  Inv1 c s ∧ ∃ H Seg extra, Inv2 s H ∧ Inv3 s H Seg extra

theorem good_reach {c : Cfg} (hfix : c.fixD1 = true) {s : State} (h : Reach c s) : Good c s := by
  refine reach_induction (P := Good c) ?_ ?_ s h
  · exact ⟨inv1_init c, _, _, _, inv2_init, inv3_init⟩
  · rintro s t s' _ ⟨I, H, Seg, extra, J, K⟩ hs
    have I' := inv1_step I hs
    obtain ⟨Seg', extra', K'⟩ := inv3_step hfix I I' J K hs
    exact ⟨I', _, Seg', extra', inv2_step I J hs, K'⟩

/-- whatever the capacity of the node -/
theorem reach_linearizable {c : Cfg} (hfix : c.fixD1 = true) {s : State} (h : Reach c s) :
    Linearizable s := by
  obtain ⟨_, H, Seg, extra, _, K⟩ := good_reach hfix h
  exact K.linearizable

/-- C01: with the repaired reader every reachable history is linearizable. Linearization points:
    insert = the permutation store, update = the value store, remove = the clear of the value cell,
    every answer that leaves the map unchanged (get, remove miss, unique-insert hit) = an instant
    inside the call at which the validated snapshot was current (known in hindsight). -/
theorem leaf_linearizable (s : State) (h : Reach cfgFixed s) : Linearizable s :=
  reach_linearizable rfl h

end Yak.Proto.Leaf
