import YakModel.Proofs.HandleEmpty
/-!
# `removeAt` along the descent; the `remove` theorem of C02
-/
namespace Yak.Tree
open Yak

theorem removeAt_of_miss {t : Tree} {p : List UInt8} {L : Layer} (hL : findLayer t p = some L)
    {rest : Key} (h : layerGet L.leaves (KT.ofKey rest) = none) (dirs : List Bool) :
    removeAt t p rest dirs = { tree := t, status := .OK_NOT_FOUND } := by
  rw [removeAt, hL]
  dsimp only
  cases hlk : leafLookup (KT.ofKey rest)
      (leafKeys (L.leaves.getD (route (KT.ofKey rest) L.leaves) emptyLeaf)) with
  | none => rfl
  | some r => rw [layerGet_of_lookup hlk] at h; cases h

theorem removeAt_of_link {t : Tree} {p : List UInt8} {L : Layer} (hL : findLayer t p = some L)
    {rest : Key} {e : Ent} (h : layerGet L.leaves (KT.ofKey rest) = some e) (hl : rest.length > 8)
    (dirs : List Bool) :
    removeAt t p rest dirs = removeAt t (p ++ rest.take 8) (rest.drop 8) dirs := by
  rw [removeAt, hL]
  dsimp only
  cases hlk : leafLookup (KT.ofKey rest)
      (leafKeys (L.leaves.getD (route (KT.ofKey rest) L.leaves) emptyLeaf)) with
  | none => rw [layerGet_of_lookup_none hlk] at h; cases h
  | some r => dsimp only; rw [dif_pos hl]

theorem removeAt_of_last {t : Tree} {p : List UInt8} {L : Layer} (hL : findLayer t p = some L)
    {rest : Key} (hl : ¬ rest.length > 8) {pre post : List Leaf} {leaf : Leaf} {a b : List Ent}
    {e : Ent} (hr : Routed L.leaves (KT.ofKey rest) pre leaf post) (hs : leaf.ents = a ++ e :: b)
    (hlk : leafLookup (KT.ofKey rest) (leafKeys leaf) = some a.length) (dirs : List Bool) :
    removeAt t p rest dirs =
      if (a ++ b).isEmpty then
        { tree := (handleEmpty (setLayer t ⟨p, pre ++ { leaf with ents := a ++ b } :: post⟩) p
            pre.length dirs 0 (p.length / 8 + 1)).1,
          status := .OK,
          choices := (handleEmpty (setLayer t ⟨p, pre ++ { leaf with ents := a ++ b } :: post⟩) p
            pre.length dirs 0 (p.length / 8 + 1)).2 }
      else { tree := setLayer t ⟨p, pre ++ { leaf with ents := a ++ b } :: post⟩, status := .OK } := by
  obtain ⟨rfl, _⟩ := findLayer_some hL
  rw [removeAt, hL]
  have her : (a ++ e :: b).eraseIdx a.length = a ++ b := by
    rw [List.eraseIdx_eq_take_drop_succ]; simp
  simp only [hr.getD, hlk, dif_neg hl, hr.set, hs, her]
  rw [← hr.len]

/-- the non-recursive tail of `removeAt`: erase the entry, then repair an emptied leaf. -/
theorem remove_base {t : Tree} (hnd : (t.map (·.pfx)).Nodup) (hF : FCore (lay t)) (hE : FEmpt (lay t))
    {p : List UInt8} {L : Layer} (hL : findLayer t p = some L) {rest : Key}
    (hshort : ¬ rest.length > 8) {pre post : List Leaf} {leaf : Leaf} {a b : List Ent} {e : Ent}
    (hr : Routed L.leaves (KT.ofKey rest) pre leaf post) (hs : leaf.ents = a ++ e :: b)
    (hek : e.kt = KT.ofKey rest) (hlk : leafLookup (KT.ofKey rest) (leafKeys leaf) = some a.length)
    (dirs : List Bool) :
    (removeAt t p rest dirs).status = .OK ∧
    ∃ t1, WalkUpd (lay t) (lay t1) p rest none ∧ Repaired t1 (removeAt t p rest dirs).tree := by
  rw [removeAt_of_last hL hshort hr hs hlk]
  have hlay : lay t p = some (pre ++ leaf :: post) := hr.eq ▸ lay_of_findLayer hL
  obtain ⟨hc', hmem⟩ := (hF.core _ _ hlay).replace_ent hs none (leaf' := { leaf with ents := a ++ b })
    rfl rfl (fun _ h => by cases h)
  rw [hek] at hmem
  obtain ⟨hnd1, hF1, hw⟩ := point_update hnd hF hlay hc' hshort (oe := none) (fun _ h => by cases h) hmem
  rw [← lay_setLayer_mk] at hF1 hw
  have hEl := hE _ _ hlay
  refine ⟨by split <;> rfl, _, hw, ?_⟩
  by_cases hab : (a ++ b).isEmpty = true
  · rw [if_pos hab]
    refine handleEmpty_spec _ _ p _ pre { leaf with ents := a ++ b } post hnd1 hF1 ?_ ?_ rfl
      (by simpa using hab) hEl.others_full (Nat.le_refl _) dirs 0
    · rw [lay_setLayer_mk, upd_upd]; exact hE.erase p
    · rw [lay_setLayer_mk]; exact upd_same _ _ _
  · rw [if_neg hab]
    refine ⟨(inv_iff _).mpr ⟨hnd1, hF1, ?_⟩, fun _ _ => rfl⟩
    rw [lay_setLayer_mk]
    exact hE.update (hEl.replace (by rw [hs]; simp) (fun e => hab (by rw [show a ++ b = [] from e]; rfl))
      rfl)

theorem removeAt_spec {t : Tree} (hnd : (t.map (·.pfx)).Nodup) (hF : FCore (lay t)) (hE : FEmpt (lay t))
    (dirs : List Bool) : ∀ (rest : Key) (p : List UInt8), (lay t p).isSome →
    (walkM (lookF (lay t)) p rest = none →
      (removeAt t p rest dirs).status = .OK_NOT_FOUND ∧ (removeAt t p rest dirs).tree = t) ∧
    (walkM (lookF (lay t)) p rest ≠ none →
      (removeAt t p rest dirs).status = .OK ∧
      ∃ t1, WalkUpd (lay t) (lay t1) p rest none ∧ Repaired t1 (removeAt t p rest dirs).tree) := by
  refine descent hF ?_ ?_ ?_
  · intro p L rest hL hg
    rw [removeAt_of_miss hL hg, walkM_none ((lookF_lay hL _).trans hg)]
    exact ⟨fun _ => ⟨rfl, rfl⟩, fun h => absurd rfl h⟩
  · intro p L rest e hL hg hl
    have hlook := (lookF_lay hL _).trans hg
    obtain ⟨pre, leaf, post, a, b, hr, hs, hek, hlk⟩ :=
      hit_split (hF.core _ _ (lay_of_findLayer hL)) (KT.ofKey_wf rest) hg
    rw [walkM_short hlook hl]
    exact ⟨fun h => absurd h (val_of_lookF_short hF hlook hl),
      fun _ => remove_base hnd hF hE hL hl hr hs hek hlk dirs⟩
  · intro p L rest e hL hg hl ih
    have hlook := (lookF_lay hL _).trans hg
    rw [removeAt_of_link hL hg hl, walkM_long hlook hl]
    refine ⟨ih.1, fun h => ?_⟩
    obtain ⟨h1, t1, h2, h3⟩ := ih.2 h
    exact ⟨h1, t1, h2.lift hlook hl, h3⟩

theorem remove_refines (t : Tree) (k : Key) (dirs : List Bool) (h : Inv t) :
    (remove t k dirs).status = (if ((get t k).val).isSome then Status.OK else Status.OK_NOT_FOUND) ∧
    Inv (remove t k dirs).tree ∧
    ∀ k', (get (remove t k dirs).tree k').val = if k' = k then none else (get t k').val := by
  obtain ⟨hnd, hF, hE⟩ := (inv_iff t).mp h
  have hs := removeAt_spec hnd hF hE dirs k [] hF.root
  unfold get remove
  rw [getAt_val]
  cases hw : walkM (lookF (lay t)) [] k with
  | none =>
    obtain ⟨h1, h2⟩ := hs.1 hw
    rw [h1, h2]
    refine ⟨rfl, h, ?_⟩
    intro k'
    rw [getAt_val]
    by_cases e : k' = k
    · rw [if_pos e, e, hw]
    · rw [if_neg e]
  | some v =>
    obtain ⟨h1, t1, h2, h3⟩ := hs.2 (by rw [hw]; simp)
    refine ⟨by rw [h1]; rfl, h3.inv, ?_⟩
    intro k'
    rw [getAt_val, getAt_val, h3.walk, h2.walk]

end Yak.Tree
