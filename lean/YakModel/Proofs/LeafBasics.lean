import YakModel.Proto.Lin
/-!
# `Leaf`: relational presentation of `step?`

`Local`: the loads and validations of a thread outside the critical section, which change nothing
but its own program counter. `Crit`: the steps of the lock holder, unlock included. `Step` adds
`invoke`, `ret` and the lock acquisition. Each constructor carries the guard of its branch of
`step?`, except which operations ask for the lock: no invariant depends on that.
-/
namespace Yak.Proto.Leaf

theorem upd_same {α} (f : Nat → α) (t : Nat) (v : α) : upd f t v t = v := by simp [upd]
theorem upd_other {α} (f : Nat → α) (t : Nat) (v : α) (i : Nat) (h : i ≠ t) : upd f t v i = f i := by
  simp [upd, h]

/-- a store to an unlisted slot is not seen through the list -/
theorem upd_of_not_mem {α} {f : Nat → α} {t : Nat} {v : α} {l : List Nat} (h : t ∉ l) :
    ∀ i ∈ l, upd f t v i = f i :=
  fun _ hi => upd_other _ _ _ _ fun e => h (e ▸ hi)

inductive Local (c : Cfg) (s : State) : Pc → Pc → Prop
  | ldVer {op} (hst : s.ver.stable = true) : Local c s (.start op) (.haveV op s.ver.vins)
  | ldPerm {op v1} : Local c s (.haveV op v1) (.haveP op v1 s.perm)
  | ldKeys {op v1 p} :
      Local c s (.haveP op v1 p) (.looked op v1 (lookupIn s.keys p (opKey op)))
  | ldVer2Ok {op v1 hit} (hst : s.ver.stable = true) (hv : s.ver.vins = v1) :
      Local c s (.looked op v1 hit) (.valid op v1 hit)
  | ldVer2Fail {op v1 hit} (hst : s.ver.stable = true) (hv : s.ver.vins ≠ v1) :
      Local c s (.looked op v1 hit) (.haveV op s.ver.vins)
  | ldValRefetch {k v1 sl} (hfix : c.fixD1 = true) (hnone : s.vals sl = none) :
      Local c s (.valid (.get k) v1 (some sl)) (.start (.get k))
  | ldValOk {k v1 sl} (hfix : c.fixD1 = true → s.vals sl ≠ none) :
      Local c s (.valid (.get k) v1 (some sl)) (.gotVal (.get k) v1 (s.vals sl))
  | getMiss {k v1} : Local c s (.valid (.get k) v1 none) (.done (.get k) .notExist)
  | getFail {k v1 x} (hst : s.ver.stable = true) (hv : s.ver.vins ≠ v1) :
      Local c s (.gotVal (.get k) v1 x) (.start (.get k))
  | getOk {k v1 x} (hst : s.ver.stable = true) (hv : s.ver.vins = v1) :
      Local c s (.gotVal (.get k) v1 x) (.done (.get k) (.ok x))
  | remFail {k v1} (hst : s.ver.stable = true) (hv : s.ver.vins ≠ v1) :
      Local c s (.valid (.remove k) v1 none) (.start (.remove k))
  | remMiss {k v1} (hst : s.ver.stable = true) (hv : s.ver.vins = v1) :
      Local c s (.valid (.remove k) v1 none) (.done (.remove k) .notFound)
  | uniqueHit {k v v1 sl} :
      Local c s (.valid (.put k v true) v1 (some sl)) (.done (.put k v true) .uniqueRestriction)
  | lockFail {op v1 hit} (hl : s.ver.locked = false) (hv : s.ver.vins ≠ v1) :
      Local c s (.valid op v1 hit) (.start op)

/-- `m`: the shared words after the step -/
inductive Crit (c : Cfg) (s : State) : Pc → Pc → State → Prop
  | relook {op sl} :
      Crit c s (.locked op (some sl)) (.relooked op (lookupIn s.keys s.perm (opKey op))) s
  | setIns {k v u} (hcap : s.perm.length < c.cap) :
      Crit c s (.locked (.put k v u) none) (.insFlag (.put k v u)) { s with ver := { s.ver with ins := true } }
  | stKey {k v u sl} (hfree : freeSlot s c.cap = some sl) :
      Crit c s (.insFlag (.put k v u)) (.keyed (.put k v u) sl) { s with keys := upd s.keys sl (some k) }
  | stValIns {k v u sl} :
      Crit c s (.keyed (.put k v u) sl) (.valued (.put k v u) sl) { s with vals := upd s.vals sl (some v) }
  | stValUpd {k v sl} :
      Crit c s (.relooked (.put k v false) (some sl)) (.published (.put k v false) (.ok none))
        { s with vals := upd s.vals sl (some v) }
  | stPermIns {k v u sl} :
      Crit c s (.valued (.put k v u) sl) (.published (.put k v u) (.ok none))
        { s with perm := insertSorted s.keys s.perm sl k }
  | clearVal {k sl} :
      Crit c s (.relooked (.remove k) (some sl)) (.cleared (.remove k) sl) { s with vals := upd s.vals sl none }
  | stPermRem {k sl} :
      Crit c s (.cleared (.remove k) sl) (.published (.remove k) (.ok none))
        { s with perm := s.perm.filter (· != sl) }
  | unlockPub {op r} :
      Crit c s (.published op r) (.done op r)
        { s with ver := { vins := if s.ver.ins then s.ver.vins + 1 else s.ver.vins, locked := false, ins := false } }
  | unlockRemMiss {k} :
      Crit c s (.relooked (.remove k) none) (.done (.remove k) .notFound) { s with ver := { s.ver with locked := false } }
  | unlockRetry {k v} :
      Crit c s (.relooked (.put k v false) none) (.start (.put k v false)) { s with ver := { s.ver with locked := false } }

inductive Step (c : Cfg) (s : State) : Nat → State → Prop
  | invoke {t : Nat} (op : OpKind) (hpc : s.pc t = .idle) :
      Step c s t { s with pc := upd s.pc t (.start op), inv := upd s.inv t s.now,
                          running := t :: s.running, now := s.now + 1 }
  | ret {t : Nat} (op : OpKind) (r : Res) (hpc : s.pc t = .done op r) :
      Step c s t { s with pc := upd s.pc t .idle, hist := s.hist ++ [(t, op, r, s.inv t, s.now)],
                          running := s.running.filter (· != t), now := s.now + 1 }
  | loc {t : Nat} {p p' : Pc} (hpc : s.pc t = p) (h : Local c s p p') :
      Step c s t { s with pc := upd s.pc t p', now := s.now + 1 }
  | lock {t : Nat} (op : OpKind) (v1 : Nat) (hit : Option Slot) (hl : s.ver.locked = false)
      (hv : s.ver.vins = v1) (hpc : s.pc t = .valid op v1 hit) :
      Step c s t { s with ver := { s.ver with locked := true }, pc := upd s.pc t (.locked op hit),
                          now := s.now + 1 }
  | crit {t : Nat} {p p' : Pc} {m : State} (hpc : s.pc t = p) (h : Crit c s p p' m) :
      Step c s t { s with ver := m.ver, perm := m.perm, keys := m.keys, vals := m.vals,
                          pc := upd s.pc t p', now := s.now + 1 }

def Event.thread : Event → Nat
  | .invoke t _ | .ldVer t | .ldPerm t | .ldKeys t | .ldVer2 t | .ldVal t | .ldVer3 t | .lock t | .relook t
  | .setIns t | .stKey t | .stVal t | .stPerm t | .clearVal t | .unlock t | .ret t => t

theorem step?_Step {c s e s'} (h : step? c s e = some s') : Step c s e.thread s' := by
  cases e
  case lock t =>
    dsimp only [step?] at h
    split at h <;> try cases h
    obtain ⟨hl, h⟩ := Option.ite_none_left_eq_some.mp h
    have hl : s.ver.locked = false := by simp_all
    split at h <;> cases h <;> rename_i hv
    · exact .loc ‹_› (.lockFail hl (by simpa using hv))
    · exact .lock _ _ _ hl (by simpa using hv) ‹_›
  case unlock t =>
    dsimp only [step?] at h
    split at h <;> cases h
    · exact .crit ‹_› .unlockPub
    · exact .crit ‹_› .unlockRemMiss
    · exact .crit ‹_› .unlockRetry
  all_goals dsimp only [step?] at h <;> (repeat' split at h) <;> cases h
  -- one goal per enabled branch, in the order of `step?`; `simp_all` only turns the Boolean tests
  -- left by `split` into the guards as stated
  · exact .invoke _ ‹_›
  · exact .loc ‹_› (.ldVer ‹_›)
  · exact .loc ‹_› .ldPerm
  · exact .loc ‹_› .ldKeys
  · exact .loc ‹_› (.ldVer2Ok (by simp_all) (by simp_all))
  · exact .loc ‹_› (.ldVer2Fail (by simp_all) (by simp_all))
  · exact .loc ‹_› (.ldValRefetch (by simp_all) (by simp_all))
  · exact .loc ‹_› (.ldValOk (by simp_all))
  · exact .loc ‹_› .getMiss
  · exact .loc ‹_› (.getFail (by simp_all) (by simp_all))
  · exact .loc ‹_› (.getOk (by simp_all) (by simp_all))
  · exact .loc ‹_› (.remFail (by simp_all) (by simp_all))
  · exact .loc ‹_› (.remMiss (by simp_all) (by simp_all))
  · exact .loc ‹_› .uniqueHit
  · exact .crit ‹_› .relook
  · exact .crit ‹_› (.setIns ‹_›)
  · exact .crit ‹_› (.stKey ‹_›)
  · exact .crit ‹_› .stValIns
  · exact .crit ‹_› .stValUpd
  · exact .crit ‹_› .stPermIns
  · exact .crit ‹_› .stPermRem
  · exact .crit ‹_› .clearVal
  · exact .ret _ _ ‹_›

theorem Local.ne_idle {c s p p'} (h : Local c s p p') : p ≠ .idle ∧ p' ≠ .idle := by
  cases h <;> exact ⟨nofun, nofun⟩

theorem Crit.ne_idle {c s p p' m} (h : Crit c s p p' m) : p ≠ .idle ∧ p' ≠ .idle := by
  cases h <;> exact ⟨nofun, nofun⟩

theorem Step.pc_other {c s t s'} (h : Step c s t s') (t' : Nat) (ht : t' ≠ t) : s'.pc t' = s.pc t' := by
  cases h <;> exact upd_other _ _ _ _ ht

theorem Step.now_eq {c s t s'} (h : Step c s t s') : s'.now = s.now + 1 := by
  cases h <;> rfl

theorem Step.invoked_eq {c s t s'} (h : Step c s t s') (t' : Nat) (hne : s.pc t' ≠ .idle) :
    s'.inv t' = s.inv t' := by
  cases h <;> try rfl
  case invoke hpc => exact upd_other _ _ _ _ (by rintro rfl; exact hne hpc)

theorem Step.invoked_other {c s t s'} (h : Step c s t s') (t' : Nat) (ht : t' ≠ t) :
    s'.inv t' = s.inv t' := by
  cases h <;> try rfl
  case invoke => exact upd_other _ _ _ _ ht

theorem reach_induction {c : Cfg} {P : State → Prop} (h0 : P init)
    (hs : ∀ s t s', Reach c s → P s → Step c s t s' → P s') : ∀ s, Reach c s → P s := by
  intro s h
  induction h with
  | init => exact h0
  | step hr he ih => exact hs _ _ _ hr ih (step?_Step he)

theorem reach_exec {c s} (h : Reach c s) : ∀ es s', exec c s es = some s' → Reach c s' := by
  intro es
  induction es generalizing s with
  | nil => intro s' h'; cases h'; exact h
  | cons e es ih =>
    intro s' h'
    obtain ⟨s1, hs, h1⟩ := Option.bind_eq_some_iff.mp h'
    exact ih (Reach.step h hs) s' h1

end Yak.Proto.Leaf
