import YakModel.Proofs.NodeSetInv
/-!
# `NodeSet`: every step keeps the invariant; the C06 theorems

The theorems of `YakProps/C06.lean` are read off the invariant of a finished scanner (`sinv_fin`).
-/
namespace Yak.Proto.NodeSet

structure Inv (s : State) : Prop where
  chain : ChainInv s.chain s.nextId
  wr : WInv s.chain s.w
  comp : CInv s.chain s.w s.completed
  scan : ∀ t, ScInv s.chain s.w (s.sc t)

theorem inv_init : Inv init := by
  refine ⟨⟨?_, ?_, ?_, ?_, ?_⟩, ⟨?_, ?_, ?_, ?_, ?_⟩, ⟨?_, ?_, ?_, ?_⟩, ?_⟩
  · simp [init]
  · simp [init]
  · intro L hL; simp [init] at hL; subst hL; decide
  · intro L hL k hk; simp [init] at hL; subst hL; cases hk
  · intro L hL; simp [init] at hL; subst hL; exact List.Pairwise.nil
  · intro t i h; exact h.elim
  · intro t1 t2 i h; exact h.elim
  · intro t k i h; cases h
  · intro t k i h; cases h
  · intro t k i j h; cases h
  · intro k hk; cases hk
  · intro t k h; exact h.elim
  · intro t k h; exact h.elim
  · intro t1 t2 k h; exact h.elim
  · intro t; trivial

theorem scinv_transfer {ch ch' : List Leaf} {w w' : Nat → WPc}
    (hS : ∀ a b f keys nodes, SInv ch w a b f keys nodes → SInv ch' w' a b f keys nodes)
    (hP : ∀ Lc ∈ ch, ∃ Lc' ∈ ch', Lc'.id = Lc.id ∧ Lc'.lo = Lc.lo ∧
      ∀ a b ph, PhInv a b Lc ph → PhInv a b Lc' ph)
    {pc : SPc} (h : ScInv ch w pc) : ScInv ch' w' pc := by
  cases pc with
  | idle => trivial
  | want a b => trivial
  | run a b keys nodes cur ph =>
    obtain ⟨Lc, hLc, hid, hs, hp⟩ := h
    obtain ⟨Lc', hLc', e1, e2, e3⟩ := hP Lc hLc
    exact ⟨Lc', hLc', by rw [e1, hid], by rw [e2]; exact hS _ _ _ _ _ hs, e3 _ _ _ hp⟩
  | fin a b keys nodes => exact hS _ _ _ _ _ h

theorem pres_setLeaf {ch : List Leaf} {nid : Nat} (hc : ChainInv ch nid) {L L' : Leaf} (hL : L ∈ ch)
    (hid : L'.id = L.id) (hk : ∀ y ∈ L.keys, y ∈ L'.keys) :
    ∀ y, PresentC ch y → PresentC (setLeaf ch L') y := by
  rintro y ⟨M, hM, hy⟩
  rcases hc.eq_or_id_ne hL hM with rfl | h
  · exact ⟨L', mem_setLeaf_self hL hid, hk y hy⟩
  · exact ⟨M, mem_setLeaf_of_ne hL hid hM h, hy⟩

/-- the five moves that rewrite one leaf in place: `t` holds `L` or finds it unlocked; the keys
    stay or the held key is published -/
theorem inv_setLeaf {s : State} (hi : Inv s) (t : Nat) (L L' : Leaf) (hL : L ∈ s.chain) (x : WPc)
    (comp' : List Nat) (hid : L'.id = L.id) (hlo : L'.lo = L.lo) (hv : L.vins ≤ L'.vins)
    (hs : L.vsplit ≤ L'.vsplit) (hmine : (s.w t).Holds L.id ∨ L.locked = false)
    (hkeys : L'.keys = L.keys ∨
      ∃ k, s.w t = .held k L.id ∧ x = .published k L.id ∧ L'.keys = insertSorted k L.keys)
    (hd : L'.dirty = false → (L.dirty = false ∧ L'.keys = L.keys) ∨ L.vins < L'.vins)
    (hwit : ∀ k i, (s.w t = .published k i ∨ ∃ j, s.w t = .splitDone k i j) →
      i = L.id ∧ L.vins < L'.vins)
    (hxsub : ∀ i, x.Holds i → (s.w t).Holds i ∨ i = L.id) (hx : WOk (setLeaf s.chain L') x)
    (hxf : ∀ k, x.inFlight k → (s.w t).inFlight k ∨ (k ∈ L'.keys ∧ ¬ PresentC s.chain k))
    (hcomp : ∀ k ∈ comp', k ∈ s.completed ∨ ((s.w t).inFlight k ∧ ∀ k', ¬ x.inFlight k')) :
    Inv ⟨setLeaf s.chain L', s.nextId, upd s.w t x, s.sc, comp'⟩ := by
  obtain ⟨hc, hwr, hci, hsc⟩ := hi
  have hoth : ∀ t' i, t' ≠ t → (s.w t').Holds i → i ≠ L.id := by
    rintro t' i ht h rfl
    rcases hmine with hm | hul
    · exact ht (hwr.mutex t' t _ h hm)
    · rw [hwr.locked_of_holds hc hL h] at hul; cases hul
  have hkown : ∀ y ∈ L'.keys, y ∈ L.keys ∨
      (Owns s.chain L y ∧ x = .published y L.id ∧ (s.w t).Holds L.id) := by
    intro y hy
    rcases hkeys with e | ⟨k, hw, rfl, e⟩
    · exact Or.inl (e ▸ hy)
    · rcases mem_insertSorted.mp (e ▸ hy) with rfl | hy'
      · exact Or.inr ⟨(hwr.held_at hc hL hw).1, rfl, by rw [hw]; exact rfl⟩
      · exact Or.inl hy'
  have hkeys2 : ∀ y ∈ L.keys, y ∈ L'.keys := by
    intro y hy
    rcases hkeys with e | ⟨k, _, _, e⟩ <;> rw [e]
    · exact hy
    · exact mem_insertSorted.mpr (Or.inr hy)
  have hsorted : L'.keys.Pairwise (· < ·) := by
    rcases hkeys with e | ⟨k, _, _, e⟩ <;> rw [e]
    · exact hc.ksorted L hL
    · exact pairwise_insertSorted (hc.ksorted L hL)
  refine ⟨?_, ?_, ?_, ?_⟩
  · refine chainInv_setLeaf hc hL hid hlo (fun y hy => ?_) hsorted
    rcases hkown y hy with h | h
    · exact hc.keysIn L hL y h
    · exact h.1
  · refine winv_frame hwr t x L.id (fun M hM hne => ⟨mem_setLeaf_of_ne hL hid hM hne,
      fun y ho => ho.of_los rfl (setLeaf_los hL hid hlo)⟩) hoth ?_ hx
    intro t' i ht hxi h'
    rcases hxsub i hxi with h | rfl
    · exact ht (hwr.mutex t' t i h' h)
    · exact hoth t' _ ht h' rfl
  · refine cinv_step hci t x (pres_setLeaf hc hL hid hkeys2) (fun k h => ?_) hcomp
    rcases hxf k h with h' | ⟨h1, h2⟩
    · exact ⟨pres_setLeaf hc hL hid hkeys2 k (hci.flightPresent t k h'), Or.inl h'⟩
    · exact ⟨⟨L', mem_setLeaf_self hL hid, h1⟩, Or.inr h2⟩
  · intro tt
    refine scinv_transfer (fun a b f keys nodes h =>
      sinv_setLeaf hc hwr hL hid hlo hv hs t x hkown hkeys2 hwit h) (fun Lc hLc => ?_) (hsc tt)
    rcases hc.eq_or_id_ne hL hLc with rfl | h
    · exact ⟨L', mem_setLeaf_self hL hid, hid, hlo, fun a b ph hp => ph_setLeaf hv hs hd hp⟩
    · exact ⟨Lc, mem_setLeaf_of_ne hL hid hLc h, rfl, rfl, fun _ _ _ hp => hp⟩

theorem inv_wSplit {s : State} (hi : Inv s) (t k : Nat) (L L' R : Leaf)
    (hw : s.w t = .held k L.id) (sp : SplitOf s.chain s.nextId L L' R k) :
    Inv ⟨insAfter (setLeaf s.chain L') L.id R, s.nextId + 1,
         upd s.w t (.splitDone k L.id s.nextId), s.sc, s.completed⟩ := by
  obtain ⟨hc, hwr, hci, hsc⟩ := hi
  have hL := sp.hL
  have hholds : (s.w t).Holds L.id := by rw [hw]; exact rfl
  obtain ⟨hown, hk⟩ := hwr.held_at hc hL hw
  have hfresh : ∀ X ∈ s.chain, X.id ≠ s.nextId := fun X hX e => by
    have := hc.idlt X hX; omega
  have hL'mem : L' ∈ insAfter (setLeaf s.chain L') L.id R := (mem_split sp).mpr (Or.inr (Or.inl rfl))
  have hRmem : R ∈ insAfter (setLeaf s.chain L') L.id R := (mem_split sp).mpr (Or.inl rfl)
  refine ⟨?_, ?_, ?_, ?_⟩
  · exact chainInv_split hc sp hown
  · refine winv_frame hwr t _ L.id ?_ (fun t' i ht h' e => ht (hwr.mutex t' t i h' (e ▸ hholds))) ?_
      ⟨hfresh L hL, ⟨L', hL'mem, sp.id', by rw [sp.locked']; exact hwr.locked_of_holds hc hL hholds,
        sp.dirty'⟩, R, hRmem, sp.rid, sp.rlocked⟩
    · intro X hX hne
      exact ⟨(mem_split sp).mpr (Or.inr (Or.inr ⟨hX, hne⟩)), fun y ho => ho.split_other hc sp hX hne⟩
    · intro t' i ht hx h'
      rcases hx with rfl | rfl
      · exact ht (hwr.mutex t' t _ h' hholds)
      · obtain ⟨X, hX, hXid, _⟩ := hwr.locked t' _ h'
        exact hfresh X hX hXid
  · refine cinv_step hci t _ (fun y hy => present_split hc sp y (Or.inl hy)) ?_ (fun k hk => Or.inl hk)
    intro k' h
    cases (show k = k' from h)
    exact ⟨present_split hc sp k (Or.inr rfl), Or.inr (not_present_of_owner hc hL hown hk)⟩
  · intro tt
    refine scinv_transfer (fun a b f keys nodes h => sinv_split hc hwr sp hown t hw h) ?_ (hsc tt)
    intro Lc hLc
    rcases hc.eq_or_id_ne hL hLc with rfl | hid
    · refine ⟨L', hL'mem, sp.id', sp.lo', fun a b ph hp => ?_⟩
      exact ph_setLeaf (Nat.le_of_eq sp.vins'.symm) (Nat.le_of_eq sp.vsplit'.symm)
        (fun hd => by rw [sp.dirty'] at hd; cases hd) hp
    · exact ⟨Lc, (mem_split sp).mpr (Or.inr (Or.inr ⟨hLc, hid⟩)), rfl, rfl, fun _ _ _ hp => hp⟩

theorem inv_wstep {s s' : State} (hi : Inv s) (h : WStep s s') : Inv s' := by
  have hc := hi.chain
  have hwr := hi.wr
  -- the first `?_` of each in-place move is `hwit`: only `unlock` and `unlockL` leave a witness pc
  -- (and bump `vins`); elsewhere it is empty
  cases h with
  | lock t k L hw hL hul hown hk =>
    refine inv_setLeaf hi t L _ hL _ _ rfl rfl (Nat.le_refl _) (Nat.le_refl _) (Or.inr hul) (Or.inl rfl)
      (fun hd => Or.inl ⟨hd, rfl⟩) ?_ (fun i h => Or.inr h) ?_ (fun k h => h.elim) (fun k hk => Or.inl hk)
    · rintro k' i (e | ⟨j, e⟩) <;> rw [hw] at e <;> cases e
    · exact ⟨_, mem_setLeaf_self hL rfl, rfl, rfl, hown.of_los rfl (setLeaf_los hL rfl rfl), hk⟩
  | insert t k L hw hL =>
    have hholds : (s.w t).Holds L.id := by rw [hw]; exact rfl
    obtain ⟨hown, hk⟩ := hwr.held_at hc hL hw
    have hlk := hwr.locked_of_holds hc hL hholds
    refine inv_setLeaf hi t L _ hL _ _ rfl rfl (Nat.le_refl _) (Nat.le_refl _) (Or.inl hholds)
      (Or.inr ⟨k, hw, rfl, rfl⟩) (fun hd => by cases hd) ?_ (fun i h => Or.inr h)
      ⟨_, mem_setLeaf_self hL rfl, rfl, hlk, rfl⟩ ?_ (fun k hk => Or.inl hk)
    · rintro k' i (e | ⟨j, e⟩) <;> rw [hw] at e <;> cases e
    · intro k' h
      cases (show k = k' from h)
      exact Or.inr ⟨mem_insertSorted.mpr (Or.inl rfl), not_present_of_owner hc hL hown hk⟩
  | unlock t k L hw hL =>
    refine inv_setLeaf hi t L _ hL .idle _ rfl rfl (Nat.le_succ _) (Nat.le_refl _)
      (Or.inl (by rw [hw]; exact rfl)) (Or.inl rfl) (fun _ => Or.inr (Nat.lt_succ_self _)) ?_
      (fun i h => h.elim) trivial (fun k' h => h.elim) ?_
    · rintro k' i (e | ⟨j, e⟩) <;> rw [hw] at e <;> cases e
      exact ⟨rfl, Nat.lt_succ_self _⟩
    · intro k' hk'
      rcases List.mem_cons.mp hk' with rfl | h
      · exact Or.inr ⟨by rw [hw]; exact rfl, fun _ h => h.elim⟩
      · exact Or.inl h
  | split t k L h p up hw hL hh hdrop =>
    exact inv_wSplit hi t k L _ _ hw (splitOf_step hc hL hh hdrop)
  | unlockL t k j L hw hL =>
    obtain ⟨hne, -⟩ := hwr.splDirty t k L.id j hw
    obtain ⟨R, hR, hRid, hRl⟩ := hwr.locked t j (by rw [hw]; exact Or.inr rfl)
    refine inv_setLeaf hi t L _ hL (.splitHalf k j) _ rfl rfl (Nat.le_succ _) (Nat.le_succ _)
      (Or.inl (by rw [hw]; exact Or.inl rfl)) (Or.inl rfl) (fun _ => Or.inr (Nat.lt_succ_self _)) ?_
      (fun i h => Or.inl (by rw [hw]; exact Or.inr h))
      ⟨R, mem_setLeaf_of_ne hL rfl hR (by rw [hRid]; exact fun e => hne e.symm), hRid, hRl⟩
      (fun k' h => Or.inl (by rw [hw]; exact h))
      (fun k' hk' => Or.inl hk')
    rintro k' i (e | ⟨j', e⟩) <;> rw [hw] at e <;> cases e
    exact ⟨rfl, Nat.lt_succ_self _⟩
  | unlockR t k L hw hL =>
    refine inv_setLeaf hi t L _ hL .idle _ rfl rfl (Nat.le_succ _) (Nat.le_succ _)
      (Or.inl (by rw [hw]; exact rfl)) (Or.inl rfl) (fun _ => Or.inr (Nat.lt_succ_self _)) ?_
      (fun i h => h.elim) trivial (fun k' h => h.elim) ?_
    · rintro k' i (e | ⟨j, e⟩) <;> rw [hw] at e <;> cases e
    · intro k' hk'
      rcases List.mem_cons.mp hk' with rfl | h
      · exact Or.inr ⟨by rw [hw]; exact rfl, fun _ h => h.elim⟩
      · exact Or.inl h

theorem Step.mono {s s' : State} (hc : ChainInv s.chain s.nextId) (h : Step s s') :
    Grow s.chain s'.chain ∧ ∀ y, PresentC s.chain y → PresentC s'.chain y := by
  cases h with
  | scanner => exact ⟨grow_refl _, fun _ h => h⟩
  | writer h =>
    cases h with
    | lock t k L hw hL =>
      exact ⟨grow_setLeaf hc hL rfl rfl (Nat.le_refl _) (Nat.le_refl _), pres_setLeaf hc hL rfl fun y hy => hy⟩
    | insert t k L hw hL =>
      exact ⟨grow_setLeaf hc hL rfl rfl (Nat.le_refl _) (Nat.le_refl _),
        pres_setLeaf hc hL rfl fun y hy => mem_insertSorted.mpr (Or.inr hy)⟩
    | unlock t k L hw hL =>
      exact ⟨grow_setLeaf hc hL rfl rfl (Nat.le_succ _) (Nat.le_refl _), pres_setLeaf hc hL rfl fun y hy => hy⟩
    | split t k L h p up hw hL hh hdrop =>
      have sp := splitOf_step (k := k) hc hL hh hdrop
      exact ⟨grow_split hc sp, fun y hy => present_split hc sp y (Or.inl hy)⟩
    | unlockL t k j L hw hL =>
      exact ⟨grow_setLeaf hc hL rfl rfl (Nat.le_succ _) (Nat.le_succ _), pres_setLeaf hc hL rfl fun y hy => hy⟩
    | unlockR t k L hw hL =>
      exact ⟨grow_setLeaf hc hL rfl rfl (Nat.le_succ _) (Nat.le_succ _), pres_setLeaf hc hL rfl fun y hy => hy⟩

theorem inv_step {s s' : State} (hi : Inv s) (hs : Step s s') : Inv s' := by
  cases hs with
  | writer h => exact inv_wstep hi h
  | scanner t pc' h =>
    refine ⟨hi.chain, hi.wr, hi.comp, fun t' => ?_⟩
    show ScInv s.chain s.w (upd s.sc t pc' t')
    rcases upd_cases s.sc t pc' t' with ⟨_, e⟩ | ⟨_, e⟩ <;> rw [e]
    · exact scInv_sstep hi.chain h (hi.scan t)
    · exact hi.scan t'

theorem inv_reach {c : Cfg} {s : State} (h : Reach c s) : Inv s := by
  induction h with
  | init => exact inv_init
  | step _ hs ih => exact inv_step ih (step?_sound ih.chain hs)

theorem ReachFrom.induct {c : Cfg} {s s' : State} (R : State → Prop) (hi : Inv s)
    (h : ReachFrom c s s') (h0 : R s) (hstep : ∀ {s1 s2}, Inv s1 → R s1 → Step s1 s2 → R s2) :
    Inv s' ∧ R s' := by
  induction h with
  | refl => exact ⟨hi, h0⟩
  | step _ hs ih =>
    have hst := step?_sound ih.1.chain hs
    exact ⟨inv_step ih.1 hst, hstep ih.1 ih.2 hst⟩

theorem Reach.trans {c : Cfg} {s s' : State} (h1 : Reach c s) (h2 : ReachFrom c s s') : Reach c s' := by
  induction h2 with
  | refl => exact h1
  | step _ hs ih => exact Reach.step ih hs

theorem grow_reachFrom {c : Cfg} {s s' : State} (hi : Inv s) (h : ReachFrom c s s') :
    Grow s.chain s'.chain :=
  (h.induct (Grow s.chain ·.chain) hi (grow_refl _) fun hi1 g hs => grow_trans g (hs.mono hi1.chain).1).2

theorem sinv_fin {c : Cfg} {s : State} (h : Reach c s) {t a b : Nat} {keys : List Nat}
    {nodes : List NodeRec} (hfin : s.sc t = .fin a b keys nodes) :
    SInv s.chain s.w a b (b + 1) keys nodes := by
  have := (inv_reach h).scan t
  rwa [hfin] at this

/-- a stored key of the interval that no writer is still publishing is in the result of a finished
    scan, or a collected pair is stale. -/
theorem scan_present_seen_or_stale {c : Cfg} {s : State} (h : Reach c s) {t a b : Nat}
    {keys : List Nat} {nodes : List NodeRec} (hfin : s.sc t = .fin a b keys nodes) {k : Nat}
    (hp : Present s k) (hnf : ∀ t', ¬ (s.w t').inFlight k) (ha : a ≤ k) (hb : k ≤ b) :
    k ∈ keys ∨ Stale s nodes := by
  obtain ⟨L, hL, hk⟩ := hp
  rcases (sinv_fin h hfin).seen L hL k hk ha hb (by omega) with h1 | h1 | ⟨t0, i, _, h2⟩
  · exact Or.inl h1
  · exact Or.inr ((stale_iff s nodes).mpr h1)
  · exfalso
    rcases h2 with h2 | ⟨j, h2⟩
    · exact hnf t0 (by rw [h2]; exact rfl)
    · exact hnf t0 (by rw [h2]; exact rfl)

/-- a completed insert: the key is stored and no writer is publishing it (`CInv`) -/
theorem scan_insert_seen_or_stale {c : Cfg} {s : State} (h : Reach c s) {t a b : Nat}
    {keys : List Nat} {nodes : List NodeRec} (hfin : s.sc t = .fin a b keys nodes) {k : Nat}
    (hk : k ∈ s.completed) (ha : a ≤ k) (hb : k ≤ b) : k ∈ keys ∨ Stale s nodes := by
  have hi := inv_reach h
  exact scan_present_seen_or_stale h hfin (hi.comp.present k hk)
    (fun t' hf => hi.comp.flightNot t' k hf hk) ha hb

theorem counters_monotone {c : Cfg} {s s' : State} (h : Reach c s) (h' : ReachFrom c s s') :
    ∀ L ∈ s.chain, ∃ L' ∈ s'.chain,
      L'.id = L.id ∧ L'.lo = L.lo ∧ L.vins ≤ L'.vins ∧ L.vsplit ≤ L'.vsplit :=
  grow_reachFrom (inv_reach h) h'

theorem fin_persistent {c : Cfg} {s s' : State} (hi : Inv s) (h' : ReachFrom c s s') {t a b : Nat}
    {keys : List Nat} {nodes : List NodeRec} (hfin : s.sc t = .fin a b keys nodes) :
    s'.sc t = .fin a b keys nodes := by
  refine (h'.induct (·.sc t = .fin a b keys nodes) hi hfin fun {s1 s2} _ h1 hs => ?_).2
  cases hs with
  | writer hw => rw [hw.sc_eq]; exact h1
  | scanner t0 pc' hst =>
    show upd s1.sc t0 pc' t = _
    rcases upd_cases s1.sc t0 pc' t with ⟨ht, _⟩ | ⟨_, e⟩
    · rw [← ht, h1] at hst
      cases hst
    · rw [e]; exact h1

/-- "now" and "ever after" coincide: a stale pair stays stale. -/
theorem stale_forever {c : Cfg} {s s' : State} (h : Reach c s) (h' : ReachFrom c s s') {t a b : Nat}
    {keys : List Nat} {nodes : List NodeRec} (hfin : s.sc t = .fin a b keys nodes)
    (hst : Stale s nodes) : Stale s' nodes := by
  have hi := inv_reach h
  exact (stale_iff s' nodes).mpr
    (stale_mono hi.chain (sinv_fin h hfin).recs (grow_reachFrom hi h') ((stale_iff s nodes).mp hst))

/-- every collected pair names a leaf of the chain and is not ahead of its counters -/
theorem records_sound {c : Cfg} {s : State} (h : Reach c s) {t a b : Nat}
    {keys : List Nat} {nodes : List NodeRec} (hfin : s.sc t = .fin a b keys nodes) :
    ∀ r ∈ nodes, ∃ L ∈ s.chain, L.id = r.1 ∧ r.2.1 ≤ L.vins ∧ r.2.2 ≤ L.vsplit :=
  (sinv_fin h hfin).recs

theorem validated_scan_is_exact {c : Cfg} {s : State} (h : Reach c s) {t a b : Nat}
    {keys : List Nat} {nodes : List NodeRec} (hfin : s.sc t = .fin a b keys nodes)
    (hns : ¬ Stale s nodes)
    (hclean : ∀ r ∈ nodes, ∀ L ∈ s.chain, L.id = r.1 → L.dirty = false) :
    ∀ k, k ∈ keys ↔ (a ≤ k ∧ k ≤ b ∧ Present s k) := by
  have hi := inv_reach h
  have hs := sinv_fin h hfin
  intro k
  constructor
  · exact hs.sub k
  · rintro ⟨ha, hb, L, hL, hk⟩
    have hdirty : ∀ i, RecIn nodes i → ∀ M ∈ s.chain, M.id = i → M.dirty = true → False := by
      rintro i ⟨r, hr, e⟩ M hM hid hd
      have := hclean r hr M hM (by rw [hid, e])
      rw [this] at hd; cases hd
    rcases hs.seen L hL k hk ha hb (by omega) with h1 | h1 | ⟨t0, i, hrec, h2⟩
    · exact h1
    · exact absurd ((stale_iff s nodes).mpr h1) hns
    · exfalso
      rcases h2 with h2 | ⟨j, h2⟩
      · obtain ⟨M, hM, hid, hd⟩ := hi.wr.pubDirty t0 k i h2
        exact hdirty i hrec M hM hid hd
      · obtain ⟨_, M, hM, hid, hd⟩ := hi.wr.splDirty t0 k i j h2
        exact hdirty i hrec M hM hid hd

theorem ReachFrom.head {c : Cfg} {s s1 s' : State} {e : Event} (h : step? c s e = some s1)
    (hr : ReachFrom c s1 s') : ReachFrom c s s' := by
  induction hr with
  | refl => exact ReachFrom.step ReachFrom.refl h
  | step _ hs ih => exact ReachFrom.step ih hs

theorem reachFrom_exec {c : Cfg} {s s' : State} (es : List Event) (he : exec c s es = some s') :
    ReachFrom c s s' := by
  induction es generalizing s with
  | nil => simp [exec] at he; subst he; exact ReachFrom.refl
  | cons e es ih =>
    simp only [exec] at he
    cases hs : step? c s e with
    | none => rw [hs] at he; simp at he
    | some s1 =>
      rw [hs] at he
      exact ReachFrom.head hs (ih he)

theorem reach_exec {c : Cfg} {s s' : State} (h : Reach c s) (es : List Event)
    (he : exec c s es = some s') : Reach c s' :=
  h.trans (reachFrom_exec es he)

theorem reach_of_exec_map {c : Cfg} {es : List Event} {α : Type} {f : State → α} {v : α}
    (h : (exec c init es).map f = some v) : ∃ s, Reach c s ∧ f s = v := by
  obtain ⟨s, hs, hv⟩ := Option.map_eq_some_iff.mp h
  exact ⟨s, reach_exec Reach.init es hs, hv⟩

end Yak.Proto.NodeSet
