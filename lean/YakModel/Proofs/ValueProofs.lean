import YakModel.Value
/-!
# Value block layout and pointer tagging (C15)

Layout: for `2^k` that fits the 16-bit header field the effective alignment `max 8 (2^k)` is stored
unchanged, is at least the header size, and is a multiple of `2^k`.

Tagging: bits 62 (`valPtrFlag`) and 63 (`childFlag`) of a slot word are the tags, so addresses and
inline values must stay below `2^62`. The facts about a flag hold for any single bit `1#64 <<< b`.
-/
namespace Yak.Value
open Yak.Const

theorem headerBytes_le_effAlign (a : Nat) : headerBytes ≤ effAlign a := by
  unfold effAlign headerBytes minAlign
  split <;> omega

theorem effAlign_lt (k : Nat) (hk : k ≤ 15) : effAlign (2^k) < 2^valueAlignBits := by
  have : 2^k ≤ 2^15 := Nat.pow_le_pow_right (by decide) hk
  unfold effAlign minAlign valueAlignBits
  split <;> omega

theorem dvd_effAlign (k : Nat) : 2^k ∣ effAlign (2^k) := by
  unfold effAlign minAlign
  split
  next h =>
    have : k ≤ 3 := Nat.le_of_lt_succ ((Nat.pow_lt_pow_iff_right (by decide)).1 (show 2^k < 2^4 by omega))
    exact Nat.pow_dvd_pow 2 this
  next => exact Nat.dvd_refl _

theorem mkHeader_pow (len k : Nat) (hk : k ≤ 15) :
    mkHeader len (2^k) = ⟨len % 2^valueLenBits, effAlign (2^k), true⟩ := by
  rw [mkHeader, Nat.mod_eq_of_lt (effAlign_lt k hk)]

theorem body_aligned (base len k : Nat) (hk : k ≤ 15) (hbase : base % effAlign (2^k) = 0) :
    bodyAddr base (mkHeader len (2^k)) % 2^k = 0 := by
  rw [mkHeader_pow len k hk]
  exact Nat.mod_eq_zero_of_dvd (Nat.dvd_add
    (Nat.dvd_trans (dvd_effAlign k) (Nat.dvd_of_mod_eq_zero hbase)) (dvd_effAlign k))

theorem regions (base len k : Nat) (hk : k ≤ 15) (hl : len < 2^32) :
    base + headerBytes ≤ bodyAddr base (mkHeader len (2^k)) ∧
    bodyAddr base (mkHeader len (2^k)) + getLen (mkHeader len (2^k)) ≤ base + totalLen len (2^k) := by
  rw [mkHeader_pow len k hk]
  have := headerBytes_le_effAlign (2^k)
  simp only [bodyAddr, getLen, totalLen, valueLenBits, Nat.mod_eq_of_lt hl]
  omega

theorem gc_size_matches_alloc (len k : Nat) (hk : k ≤ 15) (hl : len < 2^32) :
    gcInfo (mkHeader len (2^k)) = (totalLen len (2^k), effAlign (2^k)) := by
  rw [mkHeader_pow len k hk, gcInfo, totalLen, valueLenBits, Nat.mod_eq_of_lt hl]

theorem len_roundtrip (len align : Nat) (hl : len < 2^32) : getLen (mkHeader len align) = len :=
  Nat.mod_eq_of_lt hl

theorem getLsbD_bit (b i : Nat) (hb : b < 64) : (1#64 <<< b).getLsbD i = decide (b = i) := by
  rw [← BitVec.twoPow_eq, BitVec.getLsbD_twoPow]
  simp [hb]

theorem and_bit_ne_zero (w : W) (b : Nat) (hb : b < 64) :
    ((w &&& 1#64 <<< b) != 0#64) = w.getLsbD b := by
  rw [← BitVec.twoPow_eq, BitVec.and_twoPow]
  cases w.getLsbD b
  · rfl
  · have : BitVec.twoPow 64 b ≠ 0#64 := fun e => by
      have := congrArg (·.getLsbD b) e
      simp [hb] at this
    simpa using this

theorem or_bit_and_not (a : W) (b : Nat) (hb : b < 64) (h : a.getLsbD b = false) :
    (a ||| 1#64 <<< b) &&& ~~~(1#64 <<< b) = a := by
  apply BitVec.eq_of_getLsbD_eq
  intro i hi
  rw [BitVec.getLsbD_and, BitVec.getLsbD_or, BitVec.getLsbD_not, getLsbD_bit b i hb]
  by_cases e : b = i
  · subst e; simp [h]
  · simp [e, hi]

theorem getLsbD_valPtrFlag (i : Nat) : valPtrFlag.getLsbD i = decide (62 = i) :=
  getLsbD_bit 62 i (by decide)

theorem getLsbD_childFlag (i : Nat) : childFlag.getLsbD i = decide (63 = i) :=
  getLsbD_bit 63 i (by decide)

theorem isValuePtr_eq (w : W) : isValuePtr w = w.getLsbD 62 := and_bit_ne_zero w 62 (by decide)

theorem and_childFlag_ne_zero (w : W) : ((w &&& childFlag) != 0#64) = w.getLsbD 63 :=
  and_bit_ne_zero w 63 (by decide)

theorem getLsbD_of_small (a : W) (ha : a.toNat < 2^62) (i : Nat) (hi : 62 ≤ i) :
    a.getLsbD i = false :=
  Nat.testBit_lt_two_pow (Nat.lt_of_lt_of_le ha (Nat.pow_le_pow_right (by decide) hi))

theorem tag_roundtrip (a : W) (ha : a.toNat < 2^62) :
    untag (tagValue a) = a ∧ isValuePtr (tagValue a) = true ∧
    (a ≠ 0#64 → classify (tagValue a) = .outOfLine a) := by
  have h1 : untag (tagValue a) = a :=
    or_bit_and_not a 62 (by decide) (getLsbD_of_small a ha 62 (by decide))
  have h2 : isValuePtr (tagValue a) = true := by
    rw [isValuePtr_eq, tagValue, BitVec.getLsbD_or, getLsbD_valPtrFlag, Bool.or_comm]
    rfl
  refine ⟨h1, h2, fun hne => ?_⟩
  have h3 : ((tagValue a &&& childFlag) != 0#64) = false := by
    rw [and_childFlag_ne_zero, tagValue, BitVec.getLsbD_or, getLsbD_valPtrFlag,
      getLsbD_of_small a ha 63 (by decide)]
    rfl
  have h4 : tagValue a ≠ valPtrFlag := fun h => hne (by rw [← h1, h]; decide)
  simp [classify, h3, h4, h2, h1]

theorem inline_by_value (v : W) (hv : v.toNat < 2^62) : classify v = .inlineVal v := by
  have h3 : ((v &&& childFlag) != 0#64) = false := by
    rw [and_childFlag_ne_zero, getLsbD_of_small v hv 63 (by decide)]
  have h2 : isValuePtr v = false := by
    rw [isValuePtr_eq, getLsbD_of_small v hv 62 (by decide)]
  have h4 : v ≠ valPtrFlag := fun h => absurd (h ▸ hv) (by decide)
  simp [classify, h3, h4, h2]

theorem link_roundtrip (c : W) (hc : c.toNat < 2^62) : classify (setNextLayer c) = .link c := by
  have h3 : ((setNextLayer c &&& childFlag) != 0#64) = true := by
    rw [and_childFlag_ne_zero, setNextLayer, BitVec.getLsbD_or, getLsbD_childFlag, Bool.or_comm]
    rfl
  have h1 : setNextLayer c &&& ~~~childFlag = c :=
    or_bit_and_not c 63 (by decide) (getLsbD_of_small c hc 63 (by decide))
  simp [classify, h3, h1]

end Yak.Value
