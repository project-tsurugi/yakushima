import YakModel.Proto.Ledger
/-!
# Invariants of the `Ledger` model (`Yak.Proto.Ledger`)

`LInv` is stated with multiplicities (`List.count`), so that every obligation of a step is linear
arithmetic: `live` is the multiset union of the four places `spec`, `linked`, `retired`, `cursors`
(`bal`); an id handed out is live or freed once in total, no other id is (`acct`). The ghost
clauses tie the tagged log to `freed` and the tags `gc`/`finRetired` to the ids that were ever
retired.
-/
namespace Yak.Proto.Ledger

structure Acct (live freed : List Nat) (next : Nat) : Prop where
  total : ∀ o, o < next → live.count o + freed.count o = 1
  fresh : ∀ o, next ≤ o → live.count o + freed.count o = 0

structure LInv (s : State) : Prop where
  bal : ∀ o, s.live.count o =
    s.spec.count o + s.linked.count o + s.retired.count o + s.cursors.count o
  acct : Acct s.live s.freed s.next
  log : s.log.map Prod.fst = s.freed
  down : s.up = false → s.spec = [] ∧ s.linked = [] ∧ s.retired = []
  cursub : s.cursors.Sublist s.live
  ever : ∀ o ∈ s.everRetired, s.retired.count o + s.freed.count o = 1
  retEver : ∀ o ∈ s.retired, o ∈ s.everRetired
  cause : ∀ o c, (o, c) ∈ s.log → ((c = .gc ∨ c = .finRetired) ↔ o ∈ s.everRetired)

theorem linv_boot : LInv boot := by
  constructor <;> (try constructor) <;> simp [boot]

theorem count_filter_ite (p : Nat → Bool) (x : Nat) (l : List Nat) :
    (l.filter p).count x = if p x = true then l.count x else 0 := by
  split
  · next h => exact List.count_filter h
  · next h => exact List.count_eq_zero.mpr fun hm => h (List.mem_filter.mp hm).2

theorem count_mem {x : Nat} {l : List Nat} (h : x ∈ l) : 1 ≤ l.count x := List.count_pos_iff.mpr h

theorem sublist_filter {l m : List Nat} {p : Nat → Bool} (h : l.Sublist m)
    (hp : ∀ a ∈ l, p a = true) : l.Sublist (m.filter p) := by
  have := h.filter p
  rwa [List.filter_eq_self.mpr hp] at this

theorem Acct.once {l f : List Nat} {n : Nat} (h : Acct l f n) (o : Nat) :
    l.count o + f.count o ≤ 1 := by
  rcases Nat.lt_or_ge o n with hlt | hge
  · have := h.total o hlt; omega
  · have := h.fresh o hge; omega

/-- `new`: the next id becomes live -/
theorem Acct.push {l f : List Nat} {n : Nat} (h : Acct l f n) : Acct (n :: l) f (n + 1) := by
  constructor <;> intro x hx <;> have := h.total x <;> have := h.fresh x <;>
    simp only [List.count_cons, beq_iff_eq] <;> split <;> omega

/-- ids may move between `live` and `freed` as long as each id's total count stays -/
theorem Acct.move {l f : List Nat} {n : Nat} (h : Acct l f n) {l' f' : List Nat}
    (hc : ∀ x, l'.count x + f'.count x = l.count x + f.count x) : Acct l' f' n :=
  ⟨fun x hx => (hc x).trans (h.total x hx), fun x hx => (hc x).trans (h.fresh x hx)⟩

theorem LInv.once {s : State} (h : LInv s) (o : Nat) : s.live.count o + s.freed.count o ≤ 1 :=
  h.acct.once o

theorem LInv.one_place {s : State} (h : LInv s) (o : Nat) :
    s.spec.count o + s.linked.count o + s.retired.count o + s.cursors.count o +
      s.freed.count o ≤ 1 := by
  have := h.bal o; have := h.once o; omega

theorem place_live {s : State} (h : LInv s) {o : Nat}
    (hp : o ∈ s.spec ∨ o ∈ s.linked ∨ o ∈ s.retired ∨ o ∈ s.cursors) : o ∈ s.live := by
  have := h.bal o
  apply List.count_pos_iff.mp
  rcases hp with hp | hp | hp | hp <;> have := count_mem hp <;> omega

theorem not_ever_of_place {s : State} (h : LInv s) {o : Nat}
    (hp : o ∈ s.spec ∨ o ∈ s.linked ∨ o ∈ s.cursors) : o ∉ s.everRetired := by
  intro he
  have := h.ever o he; have := h.one_place o
  rcases hp with hp | hp | hp <;> have := count_mem hp <;> omega

theorem mem_log_freed {s : State} (h : LInv s) {o : Nat} {c : Cause} (hm : (o, c) ∈ s.log) :
    1 ≤ s.freed.count o := by
  apply count_mem
  rw [← h.log]
  exact List.mem_map.mpr ⟨(o, c), hm, rfl⟩

theorem log_recordFree {s : State} (h : s.log.map Prod.fst = s.freed) (os : List Nat) (c : Cause) :
    (s.recordFree os c).log.map Prod.fst = (s.recordFree os c).freed := by
  simp [State.recordFree, h, Function.comp_def]

theorem cause_recordFree {s : State} {os : List Nat} {c0 : Cause}
    (h : ∀ o c, (o, c) ∈ s.log → ((c = .gc ∨ c = .finRetired) ↔ o ∈ s.everRetired))
    (hos : ∀ o ∈ os, (c0 = .gc ∨ c0 = .finRetired) ↔ o ∈ s.everRetired) (o : Nat) (c : Cause)
    (hm : (o, c) ∈ (s.recordFree os c0).log) :
    (c = .gc ∨ c = .finRetired) ↔ o ∈ (s.recordFree os c0).everRetired := by
  simp only [State.recordFree, List.mem_append, List.mem_map, Prod.mk.injEq] at hm
  rcases hm with ⟨_, ho, rfl, rfl⟩ | hm
  · exact hos _ ho
  · exact h o c hm

/-- `new`, onto `spec` or onto `cursors`: which of the two matters to `cursub` only -/
theorem linv_new {s : State} (h : LInv s) (hup : s.up = true) {sp cu : List Nat}
    (hb : ∀ x, sp.count x + cu.count x = (s.next :: s.spec).count x + s.cursors.count x)
    (hsub : cu.Sublist (s.next :: s.live)) :
    LInv { s with live := s.next :: s.live, spec := sp, cursors := cu, next := s.next + 1 } :=
  { h with
    bal := fun x => by have := h.bal x; have := hb x; simp only [List.count_cons] at *; omega
    acct := h.acct.push
    down := fun hd => Bool.noConfusion (hup.symm.trans hd)
    cursub := hsub }

theorem linv_publish {s : State} (h : LInv s) (hup : s.up = true) {o : Nat} (hm : o ∈ s.spec) :
    LInv { s with spec := s.spec.erase o, linked := o :: s.linked } :=
  { h with
    bal := fun x => by
      have := h.bal x; have := count_mem hm
      simp only [List.count_cons, List.count_erase, beq_iff_eq]
      split
      · next hx => subst hx; omega
      · omega
    down := fun hd => Bool.noConfusion (hup.symm.trans hd) }

theorem linv_unlinkRetire {s : State} (h : LInv s) (hup : s.up = true) {o : Nat}
    (hm : o ∈ s.linked) :
    LInv { s with linked := s.linked.erase o, retired := s.retired ++ [o],
                  everRetired := o :: s.everRetired } := by
  have hc := count_mem hm
  have ho := h.one_place o
  have hne : o ∉ s.everRetired := not_ever_of_place h (.inr (.inl hm))
  refine { h with bal := fun x => ?_, down := fun hd => Bool.noConfusion (hup.symm.trans hd),
                  ever := fun x hx => ?_, retEver := fun x hx => ?_, cause := fun x c hxc => ?_ }
  · have := h.bal x
    simp only [List.count_erase, List.count_append, List.count_cons, List.count_nil, beq_iff_eq]
    split
    · next hx => subst hx; omega
    · omega
  · simp only [List.count_append, List.count_cons, List.count_nil, beq_iff_eq]
    rcases List.mem_cons.mp hx with rfl | hx
    · rw [if_pos rfl]; omega
    · have := h.ever x hx
      rw [if_neg (by rintro rfl; exact hne hx)]; omega
  · rcases List.mem_append.mp hx with hx | hx
    · exact List.mem_cons_of_mem _ (h.retEver x hx)
    · exact List.mem_cons.mpr (.inl (List.mem_singleton.mp hx))
  · -- `x` is freed, `o` is not
    have hf := mem_log_freed h hxc
    have hxo : x ≠ o := by rintro rfl; omega
    rw [h.cause x c hxc]
    exact ⟨List.mem_cons_of_mem _, fun hx => (List.mem_cons.mp hx).resolve_left hxo⟩

/-- `delete o`, in whichever place `o` is: what `discard`, `gcFree`, `dropFree`, `closeCursor` do -/
def State.release (s : State) (o : Nat) (c : Cause) : State :=
  { s with spec := s.spec.erase o, linked := s.linked.erase o, retired := s.retired.erase o,
           cursors := s.cursors.erase o, live := s.live.erase o }.recordFree [o] c

theorem linv_release {s : State} (h : LInv s) {o : Nat} (hl : o ∈ s.live) {c : Cause}
    (hc : (c = .gc ∨ c = .finRetired) ↔ o ∈ s.everRetired) : LInv (s.release o c) := by
  -- `o` occurs once in `live` and in one place, and nowhere else
  have hlo := count_mem hl
  have hoo := h.once o
  have hp := h.one_place o
  refine ⟨fun x => ?_, h.acct.move fun x => ?_, log_recordFree h.log _ _, fun hd => ?_,
    h.cursub.erase o, fun x hx => ?_, fun x hx => h.retEver x (List.mem_of_mem_erase hx),
    cause_recordFree h.cause fun x hx => by rw [List.mem_singleton.mp hx]; exact hc⟩
  · have := h.bal x
    simp only [State.release, State.recordFree, List.count_erase, beq_iff_eq]
    split
    · next hxo => subst hxo; omega
    · omega
  · simp only [State.release, State.recordFree, List.count_erase, List.count_append,
      List.count_cons, List.count_nil, beq_iff_eq]
    split
    · next hxo => subst hxo; omega
    · omega
  · obtain ⟨h1, h2, h3⟩ := h.down hd
    simp only [State.release, State.recordFree, h1, h2, h3, List.erase_nil, and_self]
  · have := h.ever x hx
    simp only [State.release, State.recordFree, List.count_erase, List.count_append,
      List.count_cons, List.count_nil, beq_iff_eq]
    split
    · next hxo => subst hxo; omega
    · omega
theorem erase_of_count {l : List Nat} {o : Nat} (h : l.count o = 0) : l.erase o = l :=
  List.erase_of_not_mem (List.count_eq_zero.mp h)

/-- erasing `o` from the three places it is not in changes nothing; `omega` finds which three -/
theorem release_of_mem {s : State} (h : LInv s) (o : Nat) (c : Cause) :
    (o ∈ s.spec → { s with spec := s.spec.erase o, live := s.live.erase o }.recordFree [o] c =
      s.release o c) ∧
    (o ∈ s.linked → { s with linked := s.linked.erase o, live := s.live.erase o }.recordFree [o] c =
      s.release o c) ∧
    (o ∈ s.retired → { s with retired := s.retired.erase o, live := s.live.erase o }.recordFree
      [o] c = s.release o c) ∧
    (o ∈ s.cursors → { s with cursors := s.cursors.erase o, live := s.live.erase o }.recordFree
      [o] c = s.release o c) := by
  have := h.one_place o
  refine ⟨fun hm => ?_, fun hm => ?_, fun hm => ?_, fun hm => ?_⟩ <;>
  · have := count_mem hm
    simp (disch := omega) only [State.release, erase_of_count]

theorem linv_destroy {s : State} (h : LInv s) (hup : s.up = true) :
    LInv ({ s with linked := [],
                   live := s.live.filter (fun o => decide (o ∉ s.linked)) }.recordFree
            s.linked .destroy) := by
  have cf : ∀ x, (s.live.filter (fun o => decide (o ∉ s.linked))).count x =
      if s.linked.count x = 0 then s.live.count x else 0 := fun x => by
    simp only [count_filter_ite, decide_eq_true_eq, List.count_eq_zero]
  refine ⟨fun x => ?_, h.acct.move fun x => ?_, log_recordFree h.log _ _,
    fun hd => Bool.noConfusion (hup.symm.trans hd), sublist_filter h.cursub fun a ha => ?_,
    fun x hx => ?_, h.retEver, cause_recordFree h.cause fun x hx => ?_⟩
  · have := h.bal x; have := h.once x
    simp only [State.recordFree, cf, List.count_nil]
    split <;> omega
  · have := h.bal x; have := h.once x
    simp only [State.recordFree, cf, List.count_append]
    split <;> omega
  · have := h.one_place a; have := count_mem (show a ∈ s.cursors from ha)
    exact decide_eq_true (List.count_eq_zero.mp (by omega))
  · have := h.ever x hx; have := h.one_place x
    simp only [State.recordFree, List.count_append]
    omega
  · simp [not_ever_of_place h (.inr (.inl hx))]

theorem linv_fin {s : State} (h : LInv s) (hspec : s.spec = []) :
    LInv (({ s with linked := [], retired := [], up := false,
                    live := s.live.filter (fun o => decide (o ∉ s.linked ∧ o ∉ s.retired)) }.recordFree
            s.linked .finLinked).recordFree s.retired .finRetired) := by
  -- what survives of `live` is, id by id, the cursors
  have cf : ∀ x, (s.live.filter (fun o => decide (o ∉ s.linked ∧ o ∉ s.retired))).count x =
      s.cursors.count x := fun x => by
    have := h.bal x; have := h.once x
    simp only [count_filter_ite, decide_eq_true_eq, ← List.count_eq_zero, hspec, List.count_nil] at *
    split <;> omega
  refine ⟨fun x => ?_, h.acct.move fun x => ?_,
    log_recordFree (log_recordFree h.log _ _) _ _, fun _ => ⟨hspec, rfl, rfl⟩,
    sublist_filter h.cursub fun a ha => ?_, fun x hx => ?_, nofun,
    cause_recordFree (cause_recordFree h.cause fun x hx => ?_) fun x hx => ?_⟩
  · simp only [State.recordFree, cf, hspec, List.count_nil, Nat.zero_add]
  · have := h.bal x
    simp only [State.recordFree, cf, List.count_append, hspec, List.count_nil] at *
    omega
  · have := h.one_place a; have := count_mem (show a ∈ s.cursors from ha)
    exact decide_eq_true ⟨List.count_eq_zero.mp (by omega), List.count_eq_zero.mp (by omega)⟩
  · have := h.ever x hx; have := h.one_place x
    simp only [State.recordFree, List.count_append, List.count_nil]
    omega
  · simp [not_ever_of_place h (.inr (.inl hx))]
  · exact ⟨fun _ => h.retEver x hx, fun _ => .inr rfl⟩

theorem linv_step {s s' : State} {e : Event} (h : LInv s) (hs : Step s e s') : LInv s' := by
  cases e <;> simp only [Step, step?, Option.ite_none_right_eq_some, Option.some.injEq] at hs <;>
    obtain ⟨g, rfl⟩ := hs
  case init => exact { h with down := nofun }
  case alloc => exact linv_new h g (fun _ => rfl) (h.cursub.cons _)
  case publish => exact linv_publish h g.1 g.2
  case discard o =>
    rw [(release_of_mem h o _).1 g.2]
    exact linv_release h (place_live h (.inl g.2)) (by simp [not_ever_of_place h (.inl g.2)])
  case unlinkRetire => exact linv_unlinkRetire h g.1 g.2
  case gcFree o =>
    rw [(release_of_mem h o _).2.2.1 g.2]
    exact linv_release h (place_live h (.inr (.inr (.inl g.2))))
      ⟨fun _ => h.retEver o g.2, fun _ => .inl rfl⟩
  case dropFree o =>
    rw [(release_of_mem h o _).2.1 g.2]
    exact linv_release h (place_live h (.inr (.inl g.2)))
      (by simp [not_ever_of_place h (.inr (.inl g.2))])
  case destroy => exact linv_destroy h g
  case openCursor =>
    exact linv_new h g (fun x => by simp only [List.count_cons]; omega) (h.cursub.cons_cons _)
  case closeCursor o =>
    rw [(release_of_mem h o _).2.2.2 g]
    exact linv_release h (place_live h (.inr (.inr (.inr g))))
      (by simp [not_ever_of_place h (.inr (.inr g))])
  case fin => exact linv_fin h g.2

theorem linv_reach {s : State} (h : Reach s) : LInv s := by
  induction h with
  | boot => exact linv_boot
  | step _ hs ih => exact linv_step ih hs

theorem exec_cons {s s' : State} {e : Event} {es : List Event} :
    exec s (e :: es) = some s' ↔ ∃ s1, Step s e s1 ∧ exec s1 es = some s' := by
  simp only [exec, Step]
  cases step? s e <;> simp

theorem reach_exec : ∀ (es : List Event) {s s' : State}, Reach s → exec s es = some s' → Reach s'
  | [], _, _, hr, h => by cases h; exact hr
  | _ :: es, _, _, hr, h =>
    let ⟨_, h1, h2⟩ := exec_cons.mp h
    reach_exec es (hr.step h1) h2

theorem exec_append : ∀ (es1 es2 : List Event) (s : State),
    exec s (es1 ++ es2) = (exec s es1).bind (fun s' => exec s' es2)
  | [], _, _ => rfl
  | e :: es1, es2, s => by
    simp only [List.cons_append, exec]
    cases step? s e with
    | none => rfl
    | some s1 => exact exec_append es1 es2 s1

theorem exec_of_reach {s : State} (h : Reach s) : ∃ es, exec boot es = some s := by
  induction h with
  | boot => exact ⟨[], rfl⟩
  | @step s s' e _ hs ih =>
    obtain ⟨es, hes⟩ := ih
    refine ⟨es ++ [e], ?_⟩
    rw [exec_append, hes]
    exact exec_cons.mpr ⟨s', hs, rfl⟩

theorem live_perm {s : State} (h : LInv s) :
    s.live.Perm (s.spec ++ s.linked ++ s.retired ++ s.cursors) :=
  List.perm_iff_count.mpr (fun a => by simp only [List.count_append]; exact h.bal a)

theorem live_freed_nodup {s : State} (h : LInv s) :
    s.live.Nodup ∧ s.freed.Nodup ∧ ∀ a ∈ s.live, ∀ b ∈ s.freed, a ≠ b :=
  List.nodup_append.mp <| List.nodup_iff_count.mpr fun a => by
    have := h.once a; simp only [List.count_append]; omega

theorem places_nodup {s : State} (h : LInv s) :
    (s.spec ++ s.linked ++ s.retired ++ s.cursors).Nodup :=
  List.nodup_iff_count.mpr (fun a => by
    have := h.one_place a; simp only [List.count_append]; omega)

theorem live_not_freed {s : State} (h : LInv s) {o : Nat} (hl : o ∈ s.live) : o ∉ s.freed :=
  fun hf => (live_freed_nodup h).2.2 o hl o hf rfl

theorem freed_no_place {s : State} (h : LInv s) {o : Nat} (hf : o ∈ s.freed) :
    o ∉ s.live ∧ o ∉ s.spec ∧ o ∉ s.linked ∧ o ∉ s.retired ∧ o ∉ s.cursors := by
  have := count_mem hf; have := h.once o; have := h.one_place o
  refine ⟨?_, ?_, ?_, ?_, ?_⟩ <;> exact List.count_eq_zero.mp (by omega)

theorem ever_freed {s : State} (h : LInv s) (hr : s.retired = []) {o : Nat}
    (he : o ∈ s.everRetired) : s.freed.count o = 1 ∧ o ∉ s.live := by
  have he := h.ever o he
  have := h.once o
  rw [hr, List.count_nil, Nat.zero_add] at he
  exact ⟨he, fun hl => by have := count_mem hl; omega⟩

theorem live_eq_cursors {s : State} (h : LInv s) (hd : s.up = false) : s.live = s.cursors := by
  obtain ⟨h1, h2, h3⟩ := h.down hd
  have hp := (live_perm h).length_eq
  rw [h1, h2, h3] at hp
  exact (h.cursub.eq_of_length hp.symm).symm

theorem allocated_iff {s : State} (h : LInv s) (o : Nat) :
    o < s.next ↔ (o ∈ s.live ∨ o ∈ s.freed) := by
  have := h.acct.total o; have := h.acct.fresh o
  simp only [← List.count_pos_iff]
  omega

theorem fst_unique : ∀ {l : List (Nat × Cause)}, (l.map Prod.fst).Nodup →
    ∀ {a : Nat} {b b' : Cause}, (a, b) ∈ l → (a, b') ∈ l → b = b'
  | [], _, _, _, _, h, _ => by cases h
  | x :: t, hn, a, b, b', h1, h2 => by
    simp only [List.map_cons, List.nodup_cons] at hn
    rcases List.mem_cons.mp h1 with e1 | m1 <;> rcases List.mem_cons.mp h2 with e2 | m2
    · exact (Prod.mk.inj (e1.trans e2.symm)).2
    · exfalso; apply hn.1; rw [← e1]; exact List.mem_map.mpr ⟨(a, b'), m2, rfl⟩
    · exfalso; apply hn.1; rw [← e2]; exact List.mem_map.mpr ⟨(a, b), m1, rfl⟩
    · exact fst_unique hn.2 m1 m2

theorem cause_unique {s : State} (h : LInv s) {o : Nat} {c c' : Cause}
    (h1 : (o, c) ∈ s.log) (h2 : (o, c') ∈ s.log) : c = c' :=
  fst_unique (by rw [h.log]; exact (live_freed_nodup h).2.1) h1 h2

theorem cause_exists {s : State} (h : LInv s) {o : Nat} (hf : o ∈ s.freed) :
    ∃ c, (o, c) ∈ s.log := by
  rw [← h.log] at hf
  obtain ⟨⟨a, c⟩, hm, rfl⟩ := List.mem_map.mp hf
  exact ⟨c, hm⟩

theorem step_freed_suffix {s s' : State} {e : Event} (hs : Step s e s') :
    s.freed <:+ s'.freed := by
  cases e <;> simp only [Step, step?, Option.ite_none_right_eq_some, Option.some.injEq] at hs <;>
    obtain ⟨_, rfl⟩ := hs <;> simp only [State.recordFree, ← List.append_assoc] <;>
    first | exact List.suffix_refl _ | exact List.suffix_append _ _

theorem exec_freed_suffix : ∀ (es : List Event) {s s' : State}, exec s es = some s' →
    s.freed <:+ s'.freed
  | [], _, _, h => by cases h; exact List.suffix_refl _
  | _ :: es, _, _, h =>
    let ⟨_, h1, h2⟩ := exec_cons.mp h
    (step_freed_suffix h1).trans (exec_freed_suffix es h2)

theorem fin_spec {s s' : State} (h : LInv s) (hs : Step s .fin s') :
    s'.live = s'.cursors ∧ s'.cursors = s.cursors ∧ s'.spec = [] ∧ s'.linked = [] ∧
    s'.retired = [] ∧ s'.up = false ∧ s'.freed = s.retired ++ (s.linked ++ s.freed) := by
  have h' := linv_step h hs
  simp only [Step, step?, Option.ite_none_right_eq_some, Option.some.injEq] at hs
  obtain ⟨g, rfl⟩ := hs
  exact ⟨live_eq_cursors h' rfl, rfl, g.2, rfl, rfl, rfl, rfl⟩

theorem empty_cycle : exec boot emptyCycle =
    some { boot with up := false } := rfl

theorem close_all : ∀ (cs : List Nat) {s : State}, s.live = s.cursors → s.cursors = cs →
    s.up = false →
    ∃ s'', exec s (cs.map .closeCursor) = some s'' ∧ s''.live = [] ∧ s''.cursors = [] ∧
      s''.up = false
  | [], s, hl, hc, hu => ⟨s, rfl, by rw [hl, hc], hc, hu⟩
  | a :: cs, s, hl, hc, hu => by
    obtain ⟨s1, hstep, hl1, hc1, hu1⟩ : ∃ s1, step? s (.closeCursor a) = some s1 ∧
        s1.live = s1.cursors ∧ s1.cursors = cs ∧ s1.up = false :=
      ⟨_, if_pos (by rw [hc]; exact List.mem_cons_self), by simp [State.recordFree, hl],
        by simp [State.recordFree, hc], hu⟩
    obtain ⟨s'', he, r⟩ := close_all cs hl1 hc1 hu1
    exact ⟨s'', exec_cons.mpr ⟨s1, hstep, he⟩, r⟩

theorem alloc_discard {s : State} (hup : s.up = true) :
    exec s [.alloc, .discard s.next] =
      some { s with next := s.next + 1, freed := s.next :: s.freed,
                    log := (s.next, .discard) :: s.log } := by
  simp [exec, step?, hup, State.recordFree]

/-- lost root CAS in `put`: the speculative border *and* the value it holds are both released -/
theorem alloc2_discard2 {s : State} (hup : s.up = true) :
    exec s [.alloc, .alloc, .discard (s.next + 1), .discard s.next] =
      some { s with next := s.next + 2, freed := s.next :: (s.next + 1) :: s.freed,
                    log := (s.next, .discard) :: (s.next + 1, .discard) :: s.log } := by
  simp [exec, step?, hup, State.recordFree]

/-- `delete_storage`: the nodes and values `T` of the dropped tree are deleted one by one -/
theorem dropFree_tree : ∀ (T : List Nat) {s : State}, LInv s → s.up = true → T.Nodup →
    (∀ o ∈ T, o ∈ s.linked) →
    ∃ s', exec s (T.map .dropFree) = some s' ∧ (∀ o ∈ T, o ∈ s'.freed) ∧
      (∀ o, o ∈ s'.linked ↔ (o ∈ s.linked ∧ o ∉ T)) ∧
      s'.spec = s.spec ∧ s'.retired = s.retired ∧ s'.cursors = s.cursors
  | [], s, _, _, _, _ => ⟨s, rfl, nofun, by simp, rfl, rfl, rfl⟩
  | a :: T, s, h, hup, hnd, hsub => by
    have ha : a ∈ s.linked := hsub a List.mem_cons_self
    obtain ⟨hna, hnd'⟩ := List.nodup_cons.mp hnd
    have hstep : step? s (.dropFree a) = some _ := if_pos ⟨hup, ha⟩
    have hlnd : s.linked.Nodup :=
      List.nodup_iff_count.mpr fun x => by have := h.one_place x; omega
    obtain ⟨s', he, hT, hl, r⟩ := dropFree_tree T (linv_step h hstep) hup hnd' fun o ho =>
      (List.mem_erase_of_ne (by rintro rfl; exact hna ho)).mpr (hsub o (List.mem_cons_of_mem _ ho))
    refine ⟨s', exec_cons.mpr ⟨_, hstep, he⟩, fun o ho => ?_, fun o => ?_, r⟩
    · rcases List.mem_cons.mp ho with rfl | ho
      · exact (exec_freed_suffix _ he).subset List.mem_cons_self
      · exact hT o ho
    · rw [hl o]
      show (o ∈ s.linked.erase a ∧ o ∉ T) ↔ _
      rw [hlnd.mem_erase_iff, List.mem_cons, not_or, and_assoc, and_left_comm]

end Yak.Proto.Ledger
