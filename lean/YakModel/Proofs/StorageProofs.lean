import YakModel.Storage
import YakModel.Proofs.KeyOrderProofs
/-!
# Proofs about the storage directory (C13)

The directory is an association list and `find` is `List.find?` on the name. `list` is a
`mergeSort` by `¬ (b < a)`: `List.pairwise_mergeSort` gives `≤`-sortedness, distinct names make it
strict.
-/
namespace Yak.Storage
open Yak Yak.Tree

theorem find_nil (n : Name) : find [] n = none := rfl

theorem find_cons (x : Name × Tree) (s : Stores) (n : Name) :
    find (x :: s) n = if x.1 = n then some x.2 else find s n := by
  unfold find
  rw [List.find?_cons]
  by_cases h : x.1 = n
  · simp [h]
  · rw [beq_false_of_ne h, if_neg h]

theorem find_isSome_iff (s : Stores) (n : Name) : (find s n).isSome = true ↔ n ∈ s.map (·.1) := by
  rw [find, Option.isSome_map, List.find?_isSome, List.mem_map]
  simp only [beq_iff_eq]

theorem find_eq_none_iff (s : Stores) (n : Name) : find s n = none ↔ n ∉ s.map (·.1) := by
  rw [← find_isSome_iff]
  cases find s n <;> simp

theorem find_append (s s' : Stores) (n : Name) :
    find (s ++ s') n = (find s n).or (find s' n) := by
  simp [find, List.find?_append, Option.map_or]

theorem find_filter_ne (s : Stores) (n m : Name) (h : m ≠ n) :
    find (s.filter (·.1 != n)) m = find s m := by
  unfold find
  rw [List.find?_filter]
  congr 2
  funext x
  by_cases hx : x.1 = m <;> simp [hx, h]

theorem find_filter_self (s : Stores) (n : Name) : find (s.filter (·.1 != n)) n = none := by
  rw [find_eq_none_iff]
  simp

theorem create_spec (s : Stores) (n : Name) (h : (s.map (·.1)).Nodup) :
    ((find s n).isSome = true → create s n = (s, Status.WARN_UNIQUE_RESTRICTION)) ∧
    ((find s n) = none → (create s n).2 = Status.OK ∧ ((create s n).1.map (·.1)).Nodup ∧
       find (create s n).1 n = some Tree.empty ∧ ∀ m, m ≠ n → find (create s n).1 m = find s m) := by
  constructor
  · intro hf
    unfold create; rw [if_pos hf]
  · intro hf
    have hc : create s n = (s ++ [(n, Tree.empty)], Status.OK) := by
      unfold create; rw [hf]; rfl
    rw [hc]
    refine ⟨rfl, ?_, ?_, ?_⟩
    · rw [List.map_append, List.nodup_append]
      refine ⟨h, List.pairwise_singleton _ _, fun a ha b hb e => ?_⟩
      rw [e, List.mem_singleton.1 hb] at ha
      exact (find_eq_none_iff s n).1 hf ha
    · simp only
      rw [find_append, hf, find_cons]; simp
    · intro m hm
      simp only
      rw [find_append, find_cons, if_neg (fun e => hm e.symm), find_nil]
      cases find s m <;> rfl

theorem delete_spec (s : Stores) (n : Name) (h : (s.map (·.1)).Nodup) :
    ((find s n) = none → delete s n = (s, Status.WARN_NOT_EXIST)) ∧
    ((find s n).isSome = true → (delete s n).2 = Status.OK ∧ ((delete s n).1.map (·.1)).Nodup ∧
       find (delete s n).1 n = none ∧ ∀ m, m ≠ n → find (delete s n).1 m = find s m) := by
  constructor
  · intro hf
    unfold delete; rw [hf]; rfl
  · intro hf
    have hd : delete s n = (s.filter (·.1 != n), Status.OK) := by
      unfold delete; rw [if_pos hf]
    rw [hd]
    refine ⟨rfl, ?_, find_filter_self s n, fun m hm => find_filter_ne s n m hm⟩
    exact (List.filter_sublist.map _).nodup h

theorem set_names (s : Stores) (n : Name) (t : Tree) : (set s n t).map (·.1) = s.map (·.1) := by
  unfold set
  rw [List.map_map]
  apply List.map_congr_left
  intro x _
  by_cases hx : x.1 = n <;> simp [hx]

theorem set_cons (x : Name × Tree) (s : Stores) (n : Name) (t : Tree) :
    set (x :: s) n t = (if x.1 = n then (n, t) else x) :: set s n t := by
  unfold set
  by_cases hx : x.1 = n <;> simp [hx]

theorem find_set (s : Stores) (n m : Name) (t : Tree) :
    find (set s n t) m = if m = n then (find s n).map (fun _ => t) else find s m := by
  induction s with
  | nil => split <;> rfl
  | cons x s ih =>
    rw [set_cons, find_cons, find_cons, find_cons, ih]
    by_cases hm : m = n
    · subst hm; by_cases hx : x.1 = m <;> simp [hx]
    · have hm' : ¬ n = m := fun e => hm e.symm
      by_cases hx : x.1 = n <;> simp [hx, hm, hm']

theorem set_other (s : Stores) (n m : Name) (t : Tree) (h : m ≠ n) :
    find (set s n t) m = find s m := by
  rw [find_set, if_neg h]

theorem set_same (s : Stores) (n : Name) (t : Tree) (h : (s.map (·.1)).Nodup)
    (he : (find s n).isSome = true) :
    find (set s n t) n = some t ∧ ((set s n t).map (·.1)).Nodup := by
  refine ⟨?_, by rw [set_names]; exact h⟩
  rw [find_set, if_pos rfl]
  cases hf : find s n with
  | none => rw [hf] at he; cases he
  | some _ => rfl

theorem list_sorted (s : Stores) (h : (s.map (·.1)).Nodup) :
    (list s).Pairwise (fun a b => lexLt a b = true) ∧ ∀ n, n ∈ list s ↔ (find s n).isSome = true := by
  unfold list
  constructor
  · have hle : ((s.map (·.1)).mergeSort (fun a b => !lexLt b a)).Pairwise
        (fun a b => (!lexLt b a) = true) := by
      apply List.pairwise_mergeSort
      · intro a b c hab hbc
        simp only [Bool.not_eq_true'] at hab hbc ⊢
        -- `a ≤ b ≤ c`: were `c < a`, then `b ≤ c < a`
        cases hca : lexLt c a
        · rfl
        · rw [lt_of_le_of_lt_of_trans lexLt_trans (lexLt_total b a) hbc hca] at hab; cases hab
      · intro a b
        simp only [Bool.or_eq_true, Bool.not_eq_true']
        cases hba : lexLt b a
        · exact Or.inl rfl
        · exact Or.inr (lexLt_asymm b a hba)
    have hnd : ((s.map (·.1)).mergeSort (fun a b => !lexLt b a)).Nodup :=
      (List.mergeSort_perm _ _).nodup_iff.2 h
    have := hle.and hnd
    refine this.imp ?_
    intro a b hab
    obtain ⟨h1, h2⟩ := hab
    simp only [Bool.not_eq_true'] at h1
    exact ((lexLt_total a b).resolve_right fun h3 => h3.elim h2 fun h3 => by rw [h3] at h1; cases h1)
  · intro n
    rw [List.mem_mergeSort, find_isSome_iff]

theorem withTree_missing {α} (s : Stores) (n : Name) (missing : α) (f : Tree → α)
    (h : find s n = none) : withTree s n missing f = missing := by
  unfold withTree; rw [h]

/-- once the name exists every further create is rejected -/
private theorem creates_after (s : Stores) (n : Name) (he : (find s n).isSome = true) (k : Nat)
    (acc : List Status) :
    ((List.range k).foldl
      (fun (acc : Stores × List Status) _ => let r := create acc.1 n; (r.1, acc.2 ++ [r.2])) (s, acc)).2.count
        Status.OK = acc.count Status.OK := by
  induction k generalizing acc with
  | zero => rfl
  | succ k ih =>
    have hc : create s n = (s, Status.WARN_UNIQUE_RESTRICTION) := by unfold create; rw [if_pos he]
    rw [List.range_succ_eq_map, List.foldl_cons, List.foldl_map]
    simp only [hc]
    rw [ih]
    simp

theorem one_winner (s : Stores) (n : Name) (h : (s.map (·.1)).Nodup) (ha : find s n = none)
    (k : Nat) (hk : 0 < k) :
    let run := (List.range k).foldl
      (fun (acc : Stores × List Status) _ => let r := create acc.1 n; (r.1, acc.2 ++ [r.2])) (s, [])
    run.2.count Status.OK = 1 := by
  intro run
  obtain ⟨k, rfl⟩ : ∃ k', k = k' + 1 := ⟨k - 1, by omega⟩
  have hspec := (create_spec s n h).2 ha
  have hrun : run = (List.range k).foldl
      (fun (acc : Stores × List Status) _ => let r := create acc.1 n; (r.1, acc.2 ++ [r.2]))
      ((create s n).1, [] ++ [(create s n).2]) := by
    show (List.range (k + 1)).foldl _ _ = _
    rw [List.range_succ_eq_map, List.foldl_cons, List.foldl_map]
  rw [hrun, creates_after _ n (by rw [hspec.2.2.1]; rfl), hspec.1]
  rfl

end Yak.Storage
