import YakModel.Proofs.LayerOps
/-!
# The storage as a finite map from prefixes to leaf chains

`lay t : prefix → Option (List Leaf)` is the view all proofs work with: `setLayer`, `eraseLayer`
are point updates of it, `FCore` / `FEmpt` restate `Inv` on it. `walkM` is the descent of `get`
over a lookup function; `descent` is the induction along it that `putAt` and `removeAt` follow.
First, `KT.ofKey` on a long key (a link, the walk goes on with `drop 8`) and on a short one (the walk ends).
-/
namespace Yak.Tree
open Yak

theorem ofKey_long {r : Key} (h : r.length > 8) : KT.ofKey r = ⟨r.take 8, 9⟩ := by
  unfold KT.ofKey; rw [if_pos h]

theorem ofKey_short {r : Key} (h : ¬ r.length > 8) : KT.ofKey r = ⟨padTo 8 r, r.length⟩ := by
  unfold KT.ofKey; rw [if_neg h]

theorem ofKey_len_long {r : Key} (h : r.length > 8) : (KT.ofKey r).len = 9 := by rw [ofKey_long h]

theorem ofKey_len_short {r : Key} (h : ¬ r.length > 8) : (KT.ofKey r).len = r.length := by
  rw [ofKey_short h]

theorem ofKey_slice_long {r : Key} (h : r.length > 8) : (KT.ofKey r).slice = r.take 8 := by
  rw [ofKey_long h]

theorem ofKey_len_ne9 {r : Key} (h : ¬ r.length > 8) : (KT.ofKey r).len ≠ 9 := by
  rw [ofKey_len_short h]; omega

theorem ofKey_eq {r r' : Key} (e : KT.ofKey r' = KT.ofKey r) :
    r'.take 8 = r.take 8 ∧ min r'.length 9 = min r.length 9 := by
  have hb := congrArg KT.bytes e
  have hl := congrArg KT.len e
  rw [bytes_ofKey, bytes_ofKey] at hb
  rw [len_ofKey, len_ofKey] at hl
  exact ⟨hb, hl⟩

theorem ofKey_eq_long {r r' : Key} (h : r.length > 8) (e : KT.ofKey r' = KT.ofKey r) :
    r'.length > 8 ∧ r'.take 8 = r.take 8 := by
  obtain ⟨hb, hl⟩ := ofKey_eq e
  exact ⟨by omega, hb⟩

theorem ofKey_eq_short {r r' : Key} (h : ¬ r.length > 8) (e : KT.ofKey r' = KT.ofKey r) : r' = r := by
  obtain ⟨hb, hl⟩ := ofKey_eq e
  rwa [List.take_of_length_le (by omega), List.take_of_length_le (by omega)] at hb

theorem ofKey_len_zero {r : Key} (h : (KT.ofKey r).len = 0) : r = [] := by
  rw [len_ofKey] at h
  exact List.eq_nil_of_length_eq_zero (by omega)

theorem drop8_ne_nil {rest : Key} (h : rest.length > 8) : rest.drop 8 ≠ [] :=
  List.ne_nil_of_length_pos (by rw [List.length_drop]; omega)

theorem take8_len {rest : Key} (h : rest.length > 8) : (rest.take 8).length = 8 := by
  simp only [List.length_take]; omega

theorem eq_iff_drop8 {r r' : Key} (htake : r'.take 8 = r.take 8) : r' = r ↔ r'.drop 8 = r.drop 8 := by
  constructor
  · intro e; rw [e]
  · intro e
    rw [← List.take_append_drop 8 r', ← List.take_append_drop 8 r, htake, e]

theorem findLayer_some {t : Tree} {p : List UInt8} {L : Layer} (h : findLayer t p = some L) :
    L.pfx = p ∧ L ∈ t := by
  unfold findLayer at h
  exact ⟨by simpa using List.find?_some h, List.mem_of_find?_eq_some h⟩

theorem isSome_findLayer_iff {t : Tree} {q : List UInt8} :
    (findLayer t q).isSome ↔ ∃ L ∈ t, L.pfx = q := by
  simp [findLayer, List.find?_isSome]

theorem any_pfx_iff {t : Tree} {q : List UInt8} :
    (t.any fun M => M.pfx == q) = true ↔ (findLayer t q).isSome := by
  rw [isSome_findLayer_iff]; simp

theorem pfx_repl (L M : Layer) : (if (M.pfx == L.pfx) = true then L else M).pfx = M.pfx := by
  split <;> simp_all

theorem findLayer_setLayer (t : Tree) (L : Layer) (q : List UInt8) :
    findLayer (setLayer t L) q = if q = L.pfx then some L else findLayer t q := by
  unfold setLayer
  split
  · rename_i h
    have hmap : findLayer (t.map fun M => if (M.pfx == L.pfx) = true then L else M) q =
        (findLayer t q).map fun M => if (M.pfx == L.pfx) = true then L else M := by
      unfold findLayer
      rw [List.find?_map]
      congr 2
      funext M
      simp only [Function.comp, pfx_repl]
    rw [hmap]
    by_cases hq : q = L.pfx
    · obtain ⟨M, hM⟩ := Option.isSome_iff_exists.mp (any_pfx_iff.mp h)
      rw [if_pos hq, hq, hM]
      simp [(findLayer_some hM).1]
    · rw [if_neg hq]
      cases hf : findLayer t q with
      | none => rfl
      | some M => simp [(findLayer_some hf).1, hq]
  · rename_i h
    rw [any_pfx_iff, Bool.not_eq_true, Option.isSome_eq_false_iff, Option.isNone_iff_eq_none] at h
    unfold findLayer at h ⊢
    rw [List.find?_append]
    by_cases hq : q = L.pfx
    · rw [if_pos hq, hq, h]; simp
    · rw [if_neg hq]; simp [Ne.symm hq]

theorem findLayer_eraseLayer (t : Tree) (p q : List UInt8) :
    findLayer (eraseLayer t p) q = if q = p then none else findLayer t q := by
  unfold eraseLayer findLayer
  rw [List.find?_filter]
  by_cases hq : q = p
  · rw [if_pos hq]; subst hq
    rw [List.find?_eq_none]
    intro x _; simp
  · rw [if_neg hq]
    congr 1
    funext M
    by_cases hM : M.pfx = q
    · simp [hM, hq]
    · simp [hM]

theorem findLayer_append (t s : Tree) (q : List UInt8) :
    findLayer (t ++ s) q = (findLayer t q).or (findLayer s q) := by
  unfold findLayer; rw [List.find?_append]

theorem findLayer_of_mem {t : Tree} (hnd : (t.map (·.pfx)).Nodup) {L : Layer} (h : L ∈ t) :
    findLayer t L.pfx = some L := by
  induction t with
  | nil => cases h
  | cons M t ih =>
    simp only [List.map_cons, List.nodup_cons] at hnd
    unfold findLayer
    rw [List.find?_cons]
    rcases List.mem_cons.mp h with e | h'
    · subst e; simp
    · have : M.pfx ≠ L.pfx := by
        intro e; apply hnd.1; rw [e]; exact List.mem_map.mpr ⟨L, h', rfl⟩
      have hb : (M.pfx == L.pfx) = false := by simp [this]
      rw [hb]
      exact ih hnd.2 h'

theorem pfx_setLayer_of_mem {t : Tree} {L : Layer} (h : (findLayer t L.pfx).isSome) :
    (setLayer t L).map (·.pfx) = t.map (·.pfx) := by
  unfold setLayer
  rw [if_pos (any_pfx_iff.mpr h), List.map_map]
  exact List.map_congr_left fun M _ => pfx_repl L M

theorem length_setLayer_of_mem {t : Tree} {L : Layer} (h : (findLayer t L.pfx).isSome) :
    (setLayer t L).length = t.length := by
  have := congrArg List.length (pfx_setLayer_of_mem h)
  simpa using this

theorem nodup_eraseLayer {t : Tree} (hnd : (t.map (·.pfx)).Nodup) (p : List UInt8) :
    ((eraseLayer t p).map (·.pfx)).Nodup := by
  unfold eraseLayer
  exact List.Nodup.sublist (List.Sublist.map _ List.filter_sublist) hnd

theorem mem_pfx_iff {t : Tree} {q : List UInt8} : q ∈ t.map (·.pfx) ↔ (findLayer t q).isSome := by
  rw [isSome_findLayer_iff, List.mem_map]

theorem nodup_append_tree {t s : Tree} (ht : (t.map (·.pfx)).Nodup) (hs : (s.map (·.pfx)).Nodup)
    (hd : ∀ q, (findLayer s q).isSome → findLayer t q = none) : ((t ++ s).map (·.pfx)).Nodup := by
  rw [List.map_append, List.nodup_append]
  refine ⟨ht, hs, ?_⟩
  intro a ha b hb e
  subst e
  have h1 := mem_pfx_iff.mp ha
  have h2 := hd a (mem_pfx_iff.mp hb)
  rw [h2] at h1; cases h1

def lay (t : Tree) (p : List UInt8) : Option (List Leaf) := (findLayer t p).map (·.leaves)

def upd (F : List UInt8 → Option (List Leaf)) (p : List UInt8) (v : Option (List Leaf)) :
    List UInt8 → Option (List Leaf) := fun q => if q = p then v else F q

theorem upd_same (F p v) : upd F p v p = v := by simp [upd]
theorem upd_other (F p v) {q} (h : q ≠ p) : upd F p v q = F q := by simp [upd, h]

theorem upd_upd (F : List UInt8 → Option (List Leaf)) (p : List UInt8) (x y : Option (List Leaf)) :
    upd (upd F p x) p y = upd F p y := by
  funext q; unfold upd; split <;> rfl

theorem upd_isSome {F : List UInt8 → Option (List Leaf)} {p : List UInt8} {v : List Leaf} {x : List UInt8}
    (h : (F x).isSome) : (upd F p (some v) x).isSome := by
  unfold upd; split <;> simp [h]

theorem upd_some_eq_some {F : List UInt8 → Option (List Leaf)} {p q : List UInt8} {v x : List Leaf} :
    upd F p (some v) q = some x ↔ q = p ∧ x = v ∨ q ≠ p ∧ F q = some x := by
  by_cases h : q = p <;> simp [upd, h, eq_comm (a := v)]

theorem upd_none_eq_some {F : List UInt8 → Option (List Leaf)} {p q : List UInt8} {x : List Leaf} :
    upd F p none q = some x ↔ q ≠ p ∧ F q = some x := by
  by_cases h : q = p <;> simp [upd, h]

theorem lay_of_findLayer {t : Tree} {p : List UInt8} {L : Layer} (h : findLayer t p = some L) :
    lay t p = some L.leaves := by simp [lay, h]

theorem findLayer_of_lay {t : Tree} {p : List UInt8} {ls : List Leaf} (h : lay t p = some ls) :
    findLayer t p = some ⟨p, ls⟩ := by
  obtain ⟨L, hL, rfl⟩ := Option.map_eq_some_iff.mp h
  rw [hL, ← (findLayer_some hL).1]

theorem lay_isSome {t : Tree} {p : List UInt8} : (lay t p).isSome = (findLayer t p).isSome := by
  simp [lay]

theorem findLayer_of_isSome {t : Tree} {p : List UInt8} (h : (lay t p).isSome) : ∃ L, findLayer t p = some L := by
  rw [lay_isSome] at h
  exact Option.isSome_iff_exists.mp h

theorem lay_setLayer (t : Tree) (L : Layer) : lay (setLayer t L) = upd (lay t) L.pfx (some L.leaves) := by
  funext q
  unfold lay upd
  rw [findLayer_setLayer]
  by_cases hq : q = L.pfx <;> simp [hq]

theorem lay_setLayer_mk (t : Tree) (p : List UInt8) (ls : List Leaf) :
    lay (setLayer t ⟨p, ls⟩) = upd (lay t) p (some ls) := lay_setLayer t ⟨p, ls⟩

theorem lay_eraseLayer (t : Tree) (p : List UInt8) : lay (eraseLayer t p) = upd (lay t) p none := by
  funext q
  unfold lay upd
  rw [findLayer_eraseLayer]
  by_cases hq : q = p <;> simp [hq]

theorem lay_append (t s : Tree) (q : List UInt8) : lay (t ++ s) q = (lay t q).or (lay s q) := by
  unfold lay
  rw [findLayer_append]
  cases findLayer t q <;> simp

theorem lay_cons (L : Layer) (t : Tree) (q : List UInt8) :
    lay (L :: t) q = if q = L.pfx then some L.leaves else lay t q := by
  unfold lay findLayer
  rw [List.find?_cons]
  by_cases hq : q = L.pfx
  · subst hq; simp
  · have : (L.pfx == q) = false := by simp [Ne.symm hq]
    rw [this, if_neg hq]

theorem lay_nil (q : List UInt8) : lay [] q = none := rfl

structure FCore (F : List UInt8 → Option (List Leaf)) : Prop where
  root : (F []).isSome
  plen : ∀ p ls, F p = some ls → p.length % 8 = 0
  core : ∀ p ls, F p = some ls → LayerCore ls
  down : ∀ p ls, F p = some ls → ∀ e ∈ layerEnts ls, e.kt.len = 9 → (F (p ++ e.kt.slice)).isSome
  nz : ∀ p ls, F p = some ls → p ≠ [] → ∀ e ∈ layerEnts ls, e.kt.len ≠ 0
  up : ∀ p ls, F p = some ls → p ≠ [] →
    ∃ us, F (p.take (p.length - 8)) = some us ∧
      ∃ e ∈ layerEnts us, e.kt = ⟨p.drop (p.length - 8), 9⟩

def FEmpt (F : List UInt8 → Option (List Leaf)) : Prop :=
  ∀ p ls, F p = some ls → EmptOK p.isEmpty ls

theorem inv_iff (t : Tree) :
    Inv t ↔ (t.map (·.pfx)).Nodup ∧ FCore (lay t) ∧ FEmpt (lay t) := by
  constructor
  · rintro ⟨hnd, hroot, hall⟩
    have key : ∀ p ls, lay t p = some ls → LayerOK t ⟨p, ls⟩ := by
      intro p ls h
      exact hall _ (findLayer_some (findLayer_of_lay h)).2
    refine ⟨hnd, ⟨?_, ?_, ?_, ?_, ?_, ?_⟩, ?_⟩
    · rw [lay_isSome]; exact isSome_findLayer_iff.mpr hroot
    · intro p ls h; exact (key p ls h).1
    · intro p ls h; exact (key p ls h).2.1
    · intro p ls h e he h9
      rw [lay_isSome]; exact isSome_findLayer_iff.mpr ((key p ls h).2.2.2.1 e he h9)
    · intro p ls h hp; exact ((key p ls h).2.2.2.2 hp).1
    · intro p ls h hp
      obtain ⟨U, hU, hUp, hx⟩ := ((key p ls h).2.2.2.2 hp).2
      refine ⟨U.leaves, ?_, hx⟩
      have := findLayer_of_mem hnd hU
      rw [hUp] at this
      exact lay_of_findLayer this
    · intro p ls h; exact (key p ls h).2.2.1
  · rintro ⟨hnd, hF, hE⟩
    refine ⟨hnd, ?_, ?_⟩
    · have := hF.root; rw [lay_isSome] at this; exact isSome_findLayer_iff.mp this
    · intro L hL
      have hl : lay t L.pfx = some L.leaves := lay_of_findLayer (findLayer_of_mem hnd hL)
      refine ⟨hF.plen _ _ hl, hF.core _ _ hl, hE _ _ hl, ?_, ?_⟩
      · intro e he h9
        have := hF.down _ _ hl e he h9
        rw [lay_isSome] at this; exact isSome_findLayer_iff.mp this
      · intro hp
        refine ⟨hF.nz _ _ hl hp, ?_⟩
        obtain ⟨us, hus, hx⟩ := hF.up _ _ hl hp
        have := findLayer_some (findLayer_of_lay hus)
        exact ⟨_, this.2, rfl, hx⟩

def lookF (F : List UInt8 → Option (List Leaf)) (q : List UInt8) (k : KT) : Option Ent :=
  (F q).bind (fun ls => layerGet ls k)

theorem lookF_some_iff {F : List UInt8 → Option (List Leaf)} {q : List UInt8} {ls : List Leaf}
    (h : F q = some ls) (hc : LayerCore ls) {k : KT} (hk : k.WF) (e : Ent) :
    lookF F q k = some e ↔ e ∈ layerEnts ls ∧ e.kt = k := by
  unfold lookF; rw [h]; exact layerGet_some_iff hc hk e

theorem lookF_none_iff {F : List UInt8 → Option (List Leaf)} {q : List UInt8} {ls : List Leaf}
    (h : F q = some ls) (hc : LayerCore ls) {k : KT} (hk : k.WF) :
    lookF F q k = none ↔ ∀ e ∈ layerEnts ls, e.kt ≠ k := by
  unfold lookF; rw [h]; exact layerGet_none_iff hc hk

theorem lookF_of_none {F : List UInt8 → Option (List Leaf)} {q : List UInt8} (h : F q = none) (k : KT) :
    lookF F q k = none := by unfold lookF; rw [h]; rfl

def walkM (M : List UInt8 → KT → Option Ent) (p : List UInt8) (rest : Key) : Option Val :=
  match M p (KT.ofKey rest) with
  | none => none
  | some e => if _h : rest.length > 8 then walkM M (p ++ rest.take 8) (rest.drop 8) else e.val
termination_by rest.length
decreasing_by
  simp only [List.length_drop]; omega

theorem walkM_none {M : List UInt8 → KT → Option Ent} {p : List UInt8} {rest : Key}
    (h : M p (KT.ofKey rest) = none) : walkM M p rest = none := by
  rw [walkM, h]

theorem walkM_long {M : List UInt8 → KT → Option Ent} {p : List UInt8} {rest : Key} {e : Ent}
    (h : M p (KT.ofKey rest) = some e) (hl : rest.length > 8) :
    walkM M p rest = walkM M (p ++ rest.take 8) (rest.drop 8) := by
  rw [walkM, h]; simp only; rw [dif_pos hl]

theorem walkM_short {M : List UInt8 → KT → Option Ent} {p : List UInt8} {rest : Key} {e : Ent}
    (h : M p (KT.ofKey rest) = some e) (hl : ¬ rest.length > 8) :
    walkM M p rest = e.val := by
  rw [walkM, h]; simp only; rw [dif_neg hl]

theorem walkM_ind {M : List UInt8 → KT → Option Ent} {C : List UInt8 → Key → Prop}
    (miss : ∀ {p rest}, M p (KT.ofKey rest) = none → C p rest)
    (last : ∀ {p rest e}, M p (KT.ofKey rest) = some e → ¬ rest.length > 8 → C p rest)
    (link : ∀ {p rest e}, M p (KT.ofKey rest) = some e → rest.length > 8 →
      C (p ++ rest.take 8) (rest.drop 8) → C p rest) (p : List UInt8) (rest : Key) : C p rest := by
  cases hm : M p (KT.ofKey rest) with
  | none => exact miss hm
  | some e =>
    by_cases hl : rest.length > 8
    · exact link hm hl (walkM_ind @miss @last @link _ _)
    · exact last hm hl
termination_by rest.length
decreasing_by
  simp only [List.length_drop]; omega

theorem walkM_congr {M M' : List UInt8 → KT → Option Ent} : ∀ (p : List UInt8) (rest : Key),
    (∀ q k, p <+: q → k.WF → M q k = M' q k) → walkM M p rest = walkM M' p rest := by
  refine walkM_ind (M := M) ?_ ?_ ?_
  · intro p rest hm h
    rw [walkM_none hm, walkM_none (h p _ (List.prefix_refl p) (KT.ofKey_wf rest) ▸ hm)]
  · intro p rest e hm hl h
    rw [walkM_short hm hl, walkM_short (h p _ (List.prefix_refl p) (KT.ofKey_wf rest) ▸ hm) hl]
  · intro p rest e hm hl ih h
    rw [walkM_long hm hl, walkM_long (h p _ (List.prefix_refl p) (KT.ofKey_wf rest) ▸ hm) hl]
    exact ih fun q k hq hk => h q k ((List.prefix_append p _).trans hq) hk

theorem getAt_step {t : Tree} {p : List UInt8} {L : Layer} (hL : findLayer t p = some L) (rest : Key) :
    getAt t p rest =
      match layerGet L.leaves (KT.ofKey rest) with
      | none => { status := .WARN_NOT_EXIST, node := some (mkRef L (route (KT.ofKey rest) L.leaves)) }
      | some e =>
        if rest.length > 8 then getAt t (p ++ rest.take 8) (rest.drop 8)
        else match e.val with
          | some v => { status := .OK, val := some v }
          | none => { status := .ERR_MODEL } := by
  rw [getAt, hL]
  simp only [layerGet, leafGet]
  cases leafLookup (KT.ofKey rest) (leafKeys (L.leaves.getD (route (KT.ofKey rest) L.leaves) emptyLeaf)) with
  | none => rfl
  | some r =>
    simp only [Option.map_some]
    by_cases hl : rest.length > 8
    · rw [dif_pos hl, if_pos hl]
    · rw [dif_neg hl, if_neg hl]
      generalize ((L.leaves.getD (route (KT.ofKey rest) L.leaves) emptyLeaf).ents.getD r default).val = o
      cases o <;> rfl

theorem lookF_lay {t : Tree} {p : List UInt8} {L : Layer} (hL : findLayer t p = some L) (k : KT) :
    lookF (lay t) p k = layerGet L.leaves k := by
  unfold lookF; rw [lay_of_findLayer hL]; rfl

theorem lookF_lay_some {t : Tree} {p : List UInt8} {k : KT} {e : Ent}
    (h : lookF (lay t) p k = some e) : ∃ L, findLayer t p = some L ∧ layerGet L.leaves k = some e := by
  cases hL : findLayer t p with
  | none => rw [lookF_of_none (by simp [lay, hL])] at h; cases h
  | some L => exact ⟨L, rfl, lookF_lay hL k ▸ h⟩

theorem getAt_val (t : Tree) : ∀ (p : List UInt8) (rest : Key),
    (getAt t p rest).val = walkM (lookF (lay t)) p rest := by
  refine walkM_ind (M := lookF (lay t)) ?_ ?_ ?_
  · intro p rest hm
    rw [walkM_none hm]
    cases hL : findLayer t p with
    | none => rw [getAt, hL]
    | some L => rw [getAt_step hL, ← lookF_lay hL, hm]
  · intro p rest e hm hl
    obtain ⟨L, hL, hg⟩ := lookF_lay_some hm
    simp only [getAt_step hL, hg, if_neg hl, walkM_short hm hl]
    cases e.val <;> rfl
  · intro p rest e hm hl ih
    obtain ⟨L, hL, hg⟩ := lookF_lay_some hm
    simp only [getAt_step hL, hg, if_pos hl, walkM_long hm hl]
    exact ih

theorem mem_of_lookF {F : List UInt8 → Option (List Leaf)} (hF : FCore F) {p : List UInt8} {k : KT}
    (hk : k.WF) {e : Ent} (h : lookF F p k = some e) :
    ∃ ls, F p = some ls ∧ e ∈ layerEnts ls ∧ e.kt = k := by
  cases hlay : F p with
  | none => rw [lookF_of_none hlay] at h; cases h
  | some ls => exact ⟨ls, rfl, (lookF_some_iff hlay (hF.core _ _ hlay) hk e).mp h⟩

theorem down_of_lookF {t : Tree} (hF : FCore (lay t)) {p : List UInt8} {rest : Key} {e : Ent}
    (h : lookF (lay t) p (KT.ofKey rest) = some e) (hl : rest.length > 8) :
    (lay t (p ++ rest.take 8)).isSome := by
  obtain ⟨ls, hlay, he, hek⟩ := mem_of_lookF hF (KT.ofKey_wf rest) h
  have := hF.down _ _ hlay e he (by rw [hek, ofKey_len_long hl])
  rwa [hek, ofKey_slice_long hl] at this

theorem val_of_lookF_short {t : Tree} (hF : FCore (lay t)) {p : List UInt8} {rest : Key} {e : Ent}
    (h : lookF (lay t) p (KT.ofKey rest) = some e) (hl : ¬ rest.length > 8) : e.val ≠ none := by
  obtain ⟨ls, hlay, he, hek⟩ := mem_of_lookF hF (KT.ofKey_wf rest) h
  intro hv
  exact ofKey_len_ne9 hl (hek ▸ (layerEnts_wf (hF.core _ _ hlay) he).2.mp hv)

/-- `walkM_ind` in a well-formed storage: a link leads to an existing layer again -/
theorem descent {t : Tree} (hF : FCore (lay t)) {C : List UInt8 → Key → Prop}
    (miss : ∀ {p L rest}, findLayer t p = some L → layerGet L.leaves (KT.ofKey rest) = none → C p rest)
    (last : ∀ {p L rest e}, findLayer t p = some L → layerGet L.leaves (KT.ofKey rest) = some e →
      ¬ rest.length > 8 → C p rest)
    (link : ∀ {p L rest e}, findLayer t p = some L → layerGet L.leaves (KT.ofKey rest) = some e →
      rest.length > 8 → C (p ++ rest.take 8) (rest.drop 8) → C p rest) :
    ∀ (rest : Key) (p : List UInt8), (lay t p).isSome → C p rest := by
  intro rest p
  refine walkM_ind (M := lookF (lay t)) (C := fun p rest => (lay t p).isSome → C p rest) ?_ ?_ ?_ p rest
  · intro p rest hm hp
    obtain ⟨L, hL⟩ := findLayer_of_isSome hp
    exact miss hL ((lookF_lay hL _).symm.trans hm)
  · intro p rest e hm hl _
    obtain ⟨L, hL, hg⟩ := lookF_lay_some hm
    exact last hL hg hl
  · intro p rest e hm hl ih _
    obtain ⟨L, hL, hg⟩ := lookF_lay_some hm
    exact link hL hg hl (ih (down_of_lookF hF hm hl))

theorem getAt_status {t : Tree} (hF : FCore (lay t)) (p : List UInt8) (rest : Key)
    (hp : (lay t p).isSome) :
    (getAt t p rest).status =
      if (walkM (lookF (lay t)) p rest).isSome then Status.OK else Status.WARN_NOT_EXIST := by
  refine descent hF (C := fun p rest => (getAt t p rest).status =
    if (walkM (lookF (lay t)) p rest).isSome then Status.OK else Status.WARN_NOT_EXIST) ?_ ?_ ?_ rest p hp
  · intro p L rest hL hg
    rw [getAt_step hL, hg, walkM_none ((lookF_lay hL _).trans hg)]; rfl
  · intro p L rest e hL hg hl
    have hlook := (lookF_lay hL _).trans hg
    simp only [getAt_step hL, hg, if_neg hl, walkM_short hlook hl]
    cases hv : e.val with
    | none => exact absurd hv (val_of_lookF_short hF hlook hl)
    | some v => rfl
  · intro p L rest e hL hg hl ih
    simp only [getAt_step hL, hg, if_pos hl, walkM_long ((lookF_lay hL _).trans hg) hl]
    exact ih

end Yak.Tree
