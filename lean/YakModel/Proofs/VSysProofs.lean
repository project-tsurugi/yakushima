import YakModel.Proto.VSys
import YakModel.Proofs.VersionProofs
/-!
# Invariants of `VSys`

`Inv` is the inductive invariant behind mutual exclusion. The counters equal their initial value
plus the ghost completion counts, which only grow: hence equal stable versions mean no completion
in between, under the `< 2^29` bound.
-/
namespace Yak.Proto.VSys
open Yak.Version

theorem upd_same {α} (f : Nat → α) (t : Nat) (v : α) : upd f t v t = v := by simp [upd]
theorem upd_other {α} (f : Nat → α) (t : Nat) (v : α) (i : Nat) (h : i ≠ t) : upd f t v i = f i := by
  simp [upd, h]

theorem upd_self {α} (f : Nat → α) (t : Nat) : upd f t (f t) = f := by
  funext i
  by_cases h : i = t
  · subst h; exact upd_same _ _ _
  · exact upd_other _ _ _ _ h

theorem upd_eq_cases {α} {f : Nat → α} {t t' : Nat} {v x : α} (h : upd f t v t' = x) :
    (t' = t ∧ v = x) ∨ (t' ≠ t ∧ f t' = x) := by
  by_cases e : t' = t
  · subst e; rw [upd_same] at h; exact .inl ⟨rfl, h⟩
  · rw [upd_other _ _ _ _ e] at h; exact .inr ⟨e, h⟩

theorem Reach.trans {a b c : State} (h1 : Reach a b) (h2 : Reach b c) : Reach a c := by
  induction h2 with
  | refl => exact h1
  | step _ hs ih => exact Reach.step ih hs

structure Inv (s : State) : Prop where
  locked_of_holds : ∀ t, s.holds t = true → s.word.locked = true
  unique : ∀ t1 t2, s.holds t1 = true → s.holds t2 = true → t1 = t2
  holder : ∀ t op exp, s.pc t = .pending op exp → op.holderOnly = true → s.holds t = true
  locker : ∀ t exp, s.pc t = .pending .lock exp → exp.locked = false ∧ s.holds t = false

theorem inv_init (b0 : Body) : Inv (init b0) := by
  constructor <;> simp [init]

/-- frame lemma: thread `t` moves its pc, the lock bit and the holders stay -/
theorem Inv.set_pc {s : State} (I : Inv s) (t : Nat) (p : Pc) (w : Body) (n1 n2 : Nat)
    (hw : w.locked = s.word.locked)
    (hp : ∀ op exp, p = .pending op exp → (op.holderOnly = true → s.holds t = true) ∧
      (op = .lock → exp.locked = false ∧ s.holds t = false)) :
    Inv { word := w, pc := upd s.pc t p, holds := s.holds, nIns := n1, nSplit := n2 } := by
  refine ⟨fun t' h => hw.trans (I.locked_of_holds t' h), I.unique, ?_, ?_⟩
  · intro t' op exp hpc hh
    rcases upd_eq_cases hpc with ⟨rfl, e⟩ | ⟨_, e⟩
    · exact (hp op exp e).1 hh
    · exact I.holder t' op exp e hh
  · intro t' exp hpc
    rcases upd_eq_cases hpc with ⟨rfl, e⟩ | ⟨_, e⟩
    · exact (hp .lock exp e).2 rfl
    · exact I.locker t' exp e

/-- a completed `lock` or `unlock` of `t`: afterwards `t` is the only possible holder -/
theorem Inv.sole_holder {s : State} (I : Inv s) (t : Nat) (w : Body) (hd : Bool) (n1 n2 : Nat)
    (hother : ∀ t', t' ≠ t → s.holds t' = false) (hw : hd = true → w.locked = true) :
    Inv { word := w, pc := upd s.pc t .idle, holds := upd s.holds t hd, nIns := n1, nSplit := n2 } := by
  have hold : ∀ t', upd s.holds t hd t' = true → t' = t ∧ hd = true := by
    intro t' h
    rcases upd_eq_cases h with ⟨rfl, e⟩ | ⟨ne, e⟩
    · exact ⟨rfl, e⟩
    · rw [hother t' ne] at e; cases e
  refine ⟨fun t' h => hw (hold t' h).2, fun t1 t2 h1 h2 => (hold t1 h1).1.trans (hold t2 h2).1.symm,
    ?_, ?_⟩
  · intro t' op exp hpc hh
    rcases upd_eq_cases hpc with ⟨_, e⟩ | ⟨ne, e⟩
    · cases e
    · have := I.holder t' op exp e hh
      rw [hother t' ne] at this
      cases this
  · intro t' exp hpc
    rcases upd_eq_cases hpc with ⟨_, e⟩ | ⟨ne, e⟩
    · cases e
    · exact ⟨(I.locker t' exp e).1, (upd_other _ _ _ _ ne).trans (hother t' ne)⟩

theorem inv_step {s s' : State} {e : Event} (I : Inv s) (hs : Step s e s') : Inv s' := by
  cases hs with
  | load t op hidle hdisc hlock =>
    exact I.set_pc t _ s.word s.nIns s.nSplit rfl fun _ _ e => by cases e; exact ⟨hdisc, hlock⟩
  | casOk t op exp hpc heq =>
    subst heq
    cases op with
    | lock =>
      -- the word was unlocked when `t` loaded it and is unchanged, so nobody holds the lock
      refine I.sole_holder t _ true _ _ (fun t' _ => ?_) (fun _ => rfl)
      cases h : s.holds t' with
      | false => rfl
      | true => exact absurd (I.locked_of_holds t' h) (by rw [(I.locker t _ hpc).1]; decide)
    | unlock =>
      refine I.sole_holder t _ false _ _ (fun t' ne => ?_) (fun h => by cases h)
      cases h : s.holds t' with
      | false => rfl
      | true => exact absurd (I.unique t' t h (I.holder t _ _ hpc rfl)) ne
    | _ =>
      all_goals
        show Inv { word := _, pc := _, holds := upd s.holds t (s.holds t), nIns := _, nSplit := _ }
        rw [upd_self]
        exact I.set_pc t .idle _ _ _ rfl fun _ _ e => by cases e
  | casFail t op exp hpc =>
    refine I.set_pc t _ s.word s.nIns s.nSplit rfl fun op' exp' e => ?_
    by_cases hl : op = .lock
    · rw [if_pos hl] at e; cases e
    · rw [if_neg hl] at e
      cases e
      exact ⟨I.holder t op exp hpc, fun h => absurd h hl⟩
  | stableRead t hst => exact I


theorem inv_reach {s0 s : State} (h0 : Inv s0) (h : Reach s0 s) : Inv s := by
  induction h with
  | refl => exact h0
  | step _ hs ih => exact inv_step ih hs

theorem lock_mutex (b0 : Body) (_hb : b0.locked = false) (s : State) (h : Reach (init b0) s) :
    (∀ t1 t2, s.holds t1 = true → s.holds t2 = true → t1 = t2) ∧
    (∀ t, s.holds t = true → s.word.locked = true) :=
  have hi := inv_reach (inv_init b0) h
  ⟨hi.unique, hi.locked_of_holds⟩

theorem stable_is_clean (s : State) (t : Nat) (b : Body) (s' : State)
    (h : Step s (.stableRead t b) s') : b.locked = false ∧ b.inserting = false ∧ b.splitting = false := by
  cases h with
  | stableRead _ hst =>
    simp only [Body.stable, Bool.and_eq_true, Bool.not_eq_eq_eq_not, Bool.not_true] at hst
    exact ⟨hst.1.2, hst.1.1, hst.2⟩

theorem unlock_locked (b : Body) : b.unlock.locked = false := by
  rw [Body.unlock_eq]

theorem apply_vinsert (op : Op) (b : Body) :
    (op.apply b).vinsert = b.vinsert + BitVec.ofNat 29 (insDelta op b) := by
  cases op
  case unlock =>
    show b.unlock.vinsert = b.vinsert + BitVec.ofNat 29 (if b.inserting then 1 else 0)
    rw [Body.unlock_eq]
    cases b.inserting <;> simp
  case incV => rfl
  all_goals exact (BitVec.add_zero _).symm

theorem apply_vsplit (op : Op) (b : Body) :
    (op.apply b).vsplit = b.vsplit + BitVec.ofNat 29 (splitDelta op b) := by
  cases op
  case unlock =>
    show b.unlock.vsplit = b.vsplit + BitVec.ofNat 29 (if b.splitting then 1 else 0)
    rw [Body.unlock_eq]
    cases b.splitting <;> simp
  all_goals exact (BitVec.add_zero _).symm

def CountInv (b0 : Body) (s : State) : Prop :=
  s.word.vinsert = b0.vinsert + BitVec.ofNat 29 s.nIns ∧
  s.word.vsplit = b0.vsplit + BitVec.ofNat 29 s.nSplit

theorem count_step {b0 : Body} {s s' : State} {e : Event} (hinv : CountInv b0 s)
    (hs : Step s e s') : CountInv b0 s' := by
  cases hs with
  | casOk t op exp hpc heq =>
    subst heq
    constructor
    · show (op.apply s.word).vinsert = b0.vinsert + BitVec.ofNat 29 (s.nIns + insDelta op s.word)
      rw [apply_vinsert, hinv.1, BitVec.ofNat_add, BitVec.add_assoc]
    · show (op.apply s.word).vsplit = b0.vsplit + BitVec.ofNat 29 (s.nSplit + splitDelta op s.word)
      rw [apply_vsplit, hinv.2, BitVec.ofNat_add, BitVec.add_assoc]
  | _ => exact hinv

theorem counter_is_count (b0 : Body) (_hb : b0.locked = false) (s : State) (h : Reach (init b0) s) :
    s.word.vinsert = b0.vinsert + BitVec.ofNat 29 s.nIns ∧
    s.word.vsplit = b0.vsplit + BitVec.ofNat 29 s.nSplit := by
  show CountInv b0 s
  induction h with
  | refl => constructor <;> simp [init]
  | step _ hs ih => exact count_step ih hs

theorem step_mono {s s' : State} {e : Event} (hs : Step s e s') :
    s.nIns ≤ s'.nIns ∧ s.nSplit ≤ s'.nSplit := by
  cases hs with
  | casOk => exact ⟨Nat.le_add_right _ _, Nat.le_add_right _ _⟩
  | _ => exact ⟨Nat.le_refl _, Nat.le_refl _⟩

theorem reach_mono {s1 s2 : State} (h : Reach s1 s2) :
    s1.nIns ≤ s2.nIns ∧ s1.nSplit ≤ s2.nSplit := by
  induction h with
  | refl => exact ⟨Nat.le_refl _, Nat.le_refl _⟩
  | step _ hs ih =>
    have := step_mono hs
    exact ⟨Nat.le_trans ih.1 this.1, Nat.le_trans ih.2 this.2⟩

theorem ofNat29_inj_of_close {a b : Nat} (hab : a ≤ b) (hlt : b - a < 2^29)
    (h : BitVec.ofNat 29 a = BitVec.ofNat 29 b) : b = a := by
  have := congrArg BitVec.toNat h
  rw [BitVec.toNat_ofNat, BitVec.toNat_ofNat] at this
  omega

theorem equal_stable_no_completion (b0 : Body) (hb : b0.locked = false) (s1 s2 : State)
    (h1 : Reach (init b0) s1) (h12 : Reach s1 s2)
    (_hs1 : s1.word.stable = true) (_hs2 : s2.word.stable = true) (heq : s1.word = s2.word)
    (hI : s2.nIns - s1.nIns < 2^29) (hS : s2.nSplit - s1.nSplit < 2^29) :
    s2.nIns = s1.nIns ∧ s2.nSplit = s1.nSplit := by
  have c1 := counter_is_count b0 hb s1 h1
  have c2 := counter_is_count b0 hb s2 (Reach.trans h1 h12)
  have m := reach_mono h12
  rw [← heq] at c2
  constructor
  · exact ofNat29_inj_of_close m.1 hI ((BitVec.add_right_inj _).1 (c1.1.symm.trans c2.1))
  · exact ofNat29_inj_of_close m.2 hS ((BitVec.add_right_inj _).1 (c1.2.symm.trans c2.2))

end Yak.Proto.VSys
