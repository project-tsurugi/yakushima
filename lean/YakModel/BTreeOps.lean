import YakModel.Shape
/-!
# Structural insert / remove on the dumped B+-tree (interior nodes included)

The sequential proof model (`Tree.lean`) works on the flattened leaf chain. This file mirrors, at the
level of *shape* (which key tuples sit in which border node in which order, which separators sit in
which interior node, the child order), what the C++ does to ONE layer's B+-tree. Version counters,
flags and values are carried along unchanged (`shapeOf` forgets them).

Rules read off the source (`/repo/include`):

* **insert** (`insertB`): `find_border` descends by `get_child_of` (`routeIdx`);
  `put` hands `compute_rank_if_insert` to `insert_lv` (interface_put.h:154-158);
  - `insert_lv` (border_helper.h:105): `cnk == key_slice_length` (15) → `border_split`, else
    `insert_lv_at(…, rank)` (border_helper.h:122-137);
  - `border_split` (border_helper.h:142): `remaining_size = 15/2+1 = 8` (l.174); the entries of rank
    `8..14` move, in rank order, to slots `0..6` of the new right node (l.177-198); the new key goes
    left iff `key_length == 0 ∨ ret < 0 ∨ (ret == 0 ∧ key_length < len(first)) ∨ (ret == 0 ∧
    rank < 8)` (`borderSplitLower`, l.215-226), at `rank` resp. `rank - 8` (l.230-238), always into
    the first EMPTY slot — so slot `0` of the new node stays the first moved entry, and the
    separator handed up is `new_border->get_key_*_at(0)` (l.76, l.307-308, l.316-317) = that entry;
    on sorted nodes it is also the first tuple of the right node after the new key was placed
    (proved: `insBorder_spec`);
  - no parent / parent is a border of the layer above → new interior root with one separator and the
    two halves (`create_interior_parent_of_border`, border_helper.h:60-89, 241-289);
  - parent interior not full → `interior_node::insert` (interior_node.h:189-232): the separator at the
    first position whose key is greater (`interiorInsertPos`), the child one further right;
  - parent interior full (15 separators) → `interior_split` (interior_helper.h:62): `pivot_key_pos =
    15/2 = 7` (l.76): separators `0..6` and children `0..7` stay, separator `7` is the pivot that
    moves up, separators `8..14` and children `8..15` go to the new right node (l.77-85); the pending
    pair is inserted into the left node iff `interiorLess key pivot` (l.98-112), into the right one
    otherwise; then the same one level up (l.165-176) or a new root
    (`create_interior_parent_of_interior`, l.26-53, l.114-137).
* **remove** (`removeB`): `border_node::delete_of<…>` (border_node.h:126): the entry matching
  `(len == 0 ∧ len' == 0) ∨ (len == len' ∧ memcmp 8 == 0)` (l.137-140) is taken out of the
  permutation (`delete_at`, l.38-60); if it was the only one (`cnk == 1`, l.142) the node is unlinked
  unless it has no parent — then it stays, empty (l.168-180); for the root border of a layer below
  the first the parent is a border and the whole layer goes with its link (l.188-190), which is a
  removal in the layer above;
  - `interior_node::delete_of(child)` (interior_helper.h:181): `n_key == 1` → the node disappears and
    `children[1-i]` takes its place in the grandparent (`swap_child`) or as the layer root
    (l.189-217); otherwise child `0` goes with separator `0` (l.219-222: keys and children shift left
    from 1), a middle child `i` with separator `i-1` (l.226-230: keys shift left from `i`, children
    from `i+1`), the last child with the last separator (l.223-225, l.231) — so only the unlink of
    child `0` moves a fence (the right neighbour inherits the lower bound); in all other cases the
    left neighbour absorbs the range.

`stepCheck` / `stepMatches` is the differential check used by `SeqCheck.finishDump`: two consecutive
dumps of the same layer must be related by exactly the step the model computes.
The theorems about `insertB` / `removeB` are in `Proofs/BTreeOpsProofs.lean`.
-/
namespace Yak.BTreeOps
open Yak Yak.Shape

/-! ### shapes -/

inductive Shape
  | border (kts : List KT)
  | interior (keys : List KT) (children : List Shape)
deriving Repr, Inhabited

mutual
def Shape.decEq : (a b : Shape) → Decidable (a = b)
  | .border x, .border y =>
    if h : x = y then isTrue (by rw [h]) else isFalse (fun e => h (by cases e; rfl))
  | .border _, .interior _ _ => isFalse (fun e => by cases e)
  | .interior _ _, .border _ => isFalse (fun e => by cases e)
  | .interior k1 c1, .interior k2 c2 =>
    if h : k1 = k2 then
      match Shape.decEqList c1 c2 with
      | isTrue hc => isTrue (by rw [h, hc])
      | isFalse hc => isFalse (fun e => hc (by cases e; rfl))
    else isFalse (fun e => h (by cases e; rfl))
def Shape.decEqList : (a b : List Shape) → Decidable (a = b)
  | [], [] => isTrue rfl
  | [], _ :: _ => isFalse (fun e => by cases e)
  | _ :: _, [] => isFalse (fun e => by cases e)
  | x :: xs, y :: ys =>
    match Shape.decEq x y, Shape.decEqList xs ys with
    | isTrue h1, isTrue h2 => isTrue (by rw [h1, h2])
    | isFalse h1, _ => isFalse (fun e => h1 (by cases e; rfl))
    | _, isFalse h2 => isFalse (fun e => h2 (by cases e; rfl))
end

instance : DecidableEq Shape := Shape.decEq

mutual
def shapeOf: BTree → Shape
  | .border _ ents => .border (ents.map (·.kt))
  | .interior _ keys children => .interior keys (shapeOfList children)
def shapeOfList : List BTree → List Shape
  | [] => []
  | c :: cs => shapeOf c :: shapeOfList cs
end

/-- `permutation::insert_rank` / the shifts of `interior_node::insert`: place `x` at position `i`
    (same definition as `Tree.insertIdx'`). -/
def insAt {α} (l : List α) (i : Nat) (x : α) : List α := l.take i ++ x :: l.drop i

/-! ### insert -/

/-- what a subtree hands to its parent after an insert: itself, or (after a split) itself, the
    separator and the new right sibling. -/
inductive InsRes
  | one (t : BTree)
  | split (l : BTree) (sep : KT) (r : BTree)
deriving Repr, Inhabited

/-- `insert_lv` on a border node: `compute_rank_if_insert`, then either `insert_lv_at` or
    `border_split`. In the split the entries of rank `≥ remaining_size` move to the new node (slot
    `0` of the new node is the entry of old rank `remaining_size`), the side of the new key is
    `borderSplitLower`, and the separator is `new_border->get_key_*_at(0)`: slot `0`, i.e. the
    first MOVED entry (the new key goes to the first empty slot, never slot `0`). -/
def insBorder (v : DVer) (ents : List DEnt) (e : DEnt) : InsRes :=
  let rank := rankIfInsert e.kt (ents.map (·.kt))
  if ents.length == Yak.Const.keySliceLength then
    let rem := Yak.Const.borderRemaining
    let lo := ents.take rem
    let hi := ents.drop rem
    let first : KT := (hi.headD default).kt
    if borderSplitLower e.kt first rank rem then
      .split (.border v (insAt lo rank e)) first (.border v hi)
    else
      .split (.border v lo) first (.border v (insAt hi (rank - rem) e))
  else
    .one (.border v (insAt ents rank e))

/-- `interior_node::insert(child, pivot_key)`: the separator goes to `interiorInsertPos`, the child
    one position further right. -/
def interiorInsert (keys : List KT) (cs : List BTree) (sep : KT) (r : BTree) :
    List KT × List BTree :=
  let p := interiorInsertPos sep keys
  (insAt keys p sep, insAt cs (p + 1) r)

/-- an interior node receives a pending (separator, child) from below: `interior_node::insert` if
    there is room, else `interior_split`: separators `0..pivot-1` and children `0..pivot` stay,
    separator `pivot` moves up, the rest go to the new right node, and the pending pair is inserted
    left or right by `interiorLess` against the pivot. -/
def interiorAdd (v : DVer) (keys : List KT) (cs : List BTree) (sep : KT) (r : BTree) : InsRes :=
  if keys.length == Yak.Const.keySliceLength then
    let pp := Yak.Const.interiorPivot
    let lk := keys.take pp
    let pivot : KT := (keys.drop pp).headD default
    let rk := keys.drop (pp + 1)
    let lc := cs.take (pp + 1)
    let rc := cs.drop (pp + 1)
    if interiorLess sep pivot then
      let (lk', lc') := interiorInsert lk lc sep r
      .split (.interior v lk' lc') pivot (.interior v rk rc)
    else
      let (rk', rc') := interiorInsert rk rc sep r
      .split (.interior v lk lc) pivot (.interior v rk' rc')
  else
    let (k', c') := interiorInsert keys cs sep r
    .one (.interior v k' c')

mutual
/-- insert below `t`; the caller deals with a split. -/
def ins : BTree → DEnt → InsRes
  | .border v ents, e => insBorder v ents e
  | .interior v keys children, e =>
    match insChild children (routeIdx e.kt keys) e with
    | (cs', none) => .one (.interior v keys cs')
    | (cs', some (sep, r)) => interiorAdd v keys cs' sep r

/-- insert below child `i`; a split child is replaced by its left half, the pending
    (separator, right half) is returned. -/
def insChild : List BTree → Nat → DEnt → List BTree × Option (KT × BTree)
  | [], _, _ => ([], none)
  | c :: cs, 0, e =>
    match ins c e with
    | .one c' => (c' :: cs, none)
    | .split l sep r => (l :: cs, some (sep, r))
  | c :: cs, i + 1, e =>
    let (cs', p) := insChild cs i e
    (c :: cs', p)
end

/-- version word of an interior node created as a new root (flags: root) — ignored by `shapeOf`. -/
def newRootVer : DVer := ⟨0, 0, 16⟩

/-- insert the (absent) entry `e` into the layer with root `t`; a split of the root creates a new
    interior root (`create_interior_parent_of_border` / `_of_interior`). -/
def insertB (t : BTree) (e : DEnt) : BTree :=
  match ins t e with
  | .one t' => t'
  | .split l sep r => .interior newRootVer [sep] [l, r]

/-! ### remove -/

/-- the per-entry test of `border_node::delete_of<…>` -/
def delMatch (k t : KT) : Bool :=
  (k.len == 0 && t.len == 0) || (k.len == t.len && memcmp k.slice t.slice 8 == 0)

/-- remove the first entry matching `kt` (`delete_at` → `permutation::delete_rank`) -/
def delEnt (kt : KT) : List DEnt → List DEnt
  | [] => []
  | e :: es => if delMatch kt e.kt then es else e :: delEnt kt es

/-- what a subtree hands to its parent after a remove: itself (possibly changed, possibly replaced
    by a promoted grandchild) or nothing (the border node became empty and asks to be unlinked). -/
inductive RemRes
  | kept (t : BTree)
  | gone
deriving Repr, Inhabited

/-- `border_node::delete_of` on a non-root border: `cnk == 1` (before the deletion) → unlink. -/
def remBorder (v : DVer) (ents : List DEnt) (kt : KT) : RemRes :=
  if ents.any (fun e => delMatch kt e.kt) then
    if ents.length == 1 then .gone else .kept (.border v (delEnt kt ents))
  else .kept (.border v ents)

/-- `interior_node::delete_of(child)` for the child at index `i`: with one separator the node
    disappears and the sibling `children[1-i]` takes its place; otherwise child `0` goes together
    with separator `0`, child `i > 0` (middle or last) together with separator `i-1`. -/
def interiorDel (v : DVer) (keys : List KT) (cs : List BTree) (i : Nat) : BTree :=
  if keys.length == 1 then cs.getD (1 - i) (.border v [])
  else if i == 0 then .interior v (keys.drop 1) (cs.drop 1)
  else .interior v (keys.eraseIdx (i - 1)) (cs.eraseIdx i)

mutual
def rem : BTree → KT → RemRes
  | .border v ents, kt => remBorder v ents kt
  | .interior v keys children, kt =>
    let i := routeIdx kt keys
    match remChild children i kt with
    | (cs', false) => .kept (.interior v keys cs')
    | (_, true) => .kept (interiorDel v keys children i)

/-- remove below child `i`: the new child list, and whether child `i` asked to be unlinked -/
def remChild : List BTree → Nat → KT → List BTree × Bool
  | [], _, _ => ([], false)
  | c :: cs, 0, kt =>
    match rem c kt with
    | .kept c' => (c' :: cs, false)
    | .gone => (c :: cs, true)
  | c :: cs, i + 1, kt =>
    let (cs', g) := remChild cs i kt
    (c :: cs', g)
end

/-- remove the tuple `kt` from the layer with root `t`. A root border stays, even empty
    (`pn == nullptr` branch of `border_node::delete_of`; for a layer below the first the whole layer
    then disappears with its link, which is a removal in the layer above). -/
def removeB (t : BTree) (kt : KT) : BTree :=
  match t with
  | .border v ents => .border v (delEnt kt ents)
  | t =>
    match rem t kt with
    | .kept t' => t'
    | .gone => t

/-! ### the differential check -/

mutual
def entsOf : BTree → List DEnt
  | .border _ ents => ents
  | .interior _ _ children => entsOfList children
def entsOfList : List BTree → List DEnt
  | [] => []
  | c :: cs => entsOf c ++ entsOfList cs
end

mutual
def nodeCount : BTree → Nat
  | .border _ _ => 1
  | .interior _ _ children => 1 + nodeCountList children
def nodeCountList : List BTree → Nat
  | [] => 0
  | c :: cs => nodeCount c + nodeCountList cs
end

def eraseFirst (k : KT) : List KT → List KT
  | [] => []
  | x :: xs => if decide (x = k) then xs else x :: eraseFirst k xs

/-- multiset difference `a − b` on tuples -/
def msDiff (a b : List KT) : List KT := b.foldl (fun acc k => eraseFirst k acc) a

def ktStr (k : KT) : String := s!"{Yak.Util.bytesHex k.slice}/{k.len}"

mutual
def shapeStr : Shape → String
  | .border kts => "B[" ++ " ".intercalate (kts.map ktStr) ++ "]"
  | .interior keys cs => "I[" ++ " ".intercalate (keys.map ktStr) ++ "](" ++ shapeStrList cs ++ ")"
def shapeStrList : List Shape → String
  | [] => ""
  | c :: cs => shapeStr c ++ (if cs.isEmpty then "" else " ") ++ shapeStrList cs
end

/-- the nodes on the descent path of `k`, from the root down, with the child index taken -/
def pathOf : Nat → BTree → KT → List (BTree × Nat)
  | 0, _, _ => []
  | _, .border v ents, _ => [(.border v ents, 0)]
  | fuel + 1, .interior v keys cs, k =>
    let i := routeIdx k keys
    (.interior v keys cs, i) :: (match cs[i]? with | some c => pathOf fuel c k | none => [])

def nodeFull : BTree → Bool
  | .border _ ents => ents.length == Yak.Const.keySliceLength
  | .interior _ keys _ => keys.length == Yak.Const.keySliceLength

/-- statistics labels for an insert step (what the algorithm exercised) -/
def insEvents (old : BTree) (k : KT) : List String :=
  let path := (pathOf (nodeCount old + 1) old k).reverse   -- leaf first
  let fulls := path.takeWhile (fun p => nodeFull p.1)
  let nsplit := fulls.length
  (if nsplit ≥ 1 then ["shape_border_splits"] else []) ++
  List.replicate (nsplit - 1) "shape_interior_splits" ++
  -- which node of `interior_split` received the pending (separator, child): the split child's
  -- index decides (index ≤ pivot position ⇔ separator < pivot on a well-formed node)
  (fulls.drop 1).map (fun p =>
    if p.2 ≤ Yak.Const.interiorPivot then "shape_interior_splits_left" else "shape_interior_splits_right") ++
  (if nsplit ≥ 1 && nsplit == path.length then ["shape_new_roots"] else [])

/-- statistics labels for a remove step -/
def remEvents (old : BTree) (k : KT) : List String :=
  let path := (pathOf (nodeCount old + 1) old k).reverse
  match path with
  | (.border _ ents, _) :: (.interior _ keys _, i) :: up =>
    if ents.length == 1 && ents.any (fun e => delMatch k e.kt) then
      if keys.length == 1 then
        [if up.isEmpty then "shape_collapses_root" else "shape_collapses_inner"]
      else if i == 0 then ["shape_unlinks_first"]
      else if i == keys.length then ["shape_unlinks_last"]
      else ["shape_unlinks_middle"]
    else []
  | [(.border _ ents, _)] =>
    if ents.length == 1 && ents.any (fun e => delMatch k e.kt) then ["shape_root_emptied"] else []
  | _ => []

/-- verdict on one layer step: `none` = no verdict (more than one tuple changed);
    `some (labels, err)`: the statistics labels of the step and the mismatch, if any. -/
def stepCheck (old new : BTree) : Option (List String × Option String) :=
  let eo := entsOf old
  let en := entsOf new
  let ko := eo.map (·.kt)
  let kn := en.map (·.kt)
  let added := msDiff kn ko
  let removed := msDiff ko kn
  let verdict (label : String) (events : List String) (expect : Shape) :=
    let got := shapeOf new
    let events := label :: events ++ (if nodeCount old != nodeCount new then ["shape_splits"] else [])
    if got = expect then some (events, none)
    else some (events, some s!"{label}: implementation {shapeStr got} model {shapeStr expect} (before: {shapeStr (shapeOf old)})")
  match added, removed with
  | [], [] => verdict "shape_same" [] (shapeOf old)
  | [k], [] =>
    match en.find? (fun e => decide (e.kt = k)) with
    | some e => verdict "shape_inserts" (insEvents old k) (shapeOf (insertB old e))
    | none => none
  | [], [k] => verdict "shape_removes" (remEvents old k) (shapeOf (removeB old k))
  | _, _ => none

/-- the differential check proper: `some msg` iff the step got a verdict and the shapes differ. -/
def stepMatches (old new : BTree) : Option String :=
  match stepCheck old new with
  | some (_, some msg) => some msg
  | _ => none

end Yak.BTreeOps
