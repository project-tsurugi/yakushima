import YakProps.C01
import YakProps.C02
import YakProps.C03
import YakProps.C04
import YakProps.C05
import YakProps.C06
import YakProps.C07
import YakProps.C08
import YakProps.C09
import YakProps.C10
import YakProps.C11
import YakProps.C12
import YakProps.C13
import YakProps.C14
import YakProps.C15
import YakProps.C16
import YakProps.C17
import YakProps.C18
import YakProps.C19
import YakProps.C20
