import YakModel.Proto.Epoch
import YakModel.Proofs.EpochProofs
/-!
# C07 — memory handed out inside a session stays valid until `leave`

"An object unlinked from the tree is never released while any session that was active at the
moment of unlinking is still active."

Model: `YakModel/Proto/Epoch.lean` — any number `N` of session slots, the epoch thread and the gc
thread, interleaved at the granularity of single shared-memory accesses; time is not modelled
(every delay is possible); `witness s obj` is the ghost set of sessions that were active when
`obj` was unlinked and have not called `leave` since.

`cfgFixed` is the repaired enter (store `begin`, re-read `E`, retry until unchanged); `cfgD3` is
`assign_thread_info` before that repair (defect D3), safe only on runs in which the epoch is never
incremented between a worker's load of `E` and its store to `begin` (`ReachAdj`). The inductive
invariant and its step lemma are in `YakModel/Proofs/EpochProofs.lean`.
-/
namespace Yak.Props.C07
open Yak.Proto.Epoch

/-- **C07, repaired enter.** For every number of slots and every interleaving of workers, epoch
    thread and gc thread: whenever an object has been released, every session that was active when
    it was unlinked has already called `leave`. -/
theorem no_premature_free (N : Nat) (s : State) (h : Reach cfgFixed (init N) s) :
    ∀ obj ∈ s.freed, witness s obj = [] :=
  fun obj ho => ((inv_reach h).ghost.freedA obj ho).2

/-- the inductive core ("epoch window"): an active session's published `begin` is `E` or `E - 1`,
    and both the gc epoch and the gc thread's private copy of it are strictly below it. -/
theorem epoch_window (N : Nat) (s : State) (h : Reach cfgFixed (init N) s) (i : Nat)
    (ha : s.pc i = .active) :
    1 ≤ s.bg i ∧ s.bg i ≤ s.E ∧ s.E ≤ s.bg i + 1 ∧ s.G < s.bg i ∧
    ∀ g, s.gpc.g? = some g → g < s.bg i := by
  have hI := inv_reach h
  have a := hI.active ha
  exact ⟨a.pos, (hI.slot i).le, a.window, a.G_lt, a.g_lt⟩

/-- every retire tag is recent: at the moment a session retires an object, the tag it attaches
    (its own `begin`) is `≥ E - 1`, and `begin` of every session in the new witness set is
    `≤ tag + 1`. -/
theorem retire_tag_is_recent (N : Nat) (s s' : State) (i obj : Nat)
    (h : Reach cfgFixed (init N) s) (hs : step? cfgFixed s (.unlinkRetire i obj) = some s') :
    s.E ≤ s.bg i + 1 ∧ (s.bg i, obj) ∈ s'.items i ∧
    ∀ j ∈ witness s' obj, s.bg j ≤ s.bg i + 1 := by
  simp only [step?, Option.ite_none_right_eq_some, Option.some.injEq] at hs
  obtain ⟨⟨_, hp, _⟩, rfl⟩ := hs
  have hI := inv_reach h
  have hE := (hI.active hp).window
  -- the bound holds for every slot `j`, witness or not
  refine ⟨hE, ?_, fun j _ => Nat.le_trans (hI.slot j).le hE⟩
  show _ ∈ (upd s.slots i _ i).items
  rw [upd_same, Slot.items_push]
  exact List.mem_append_right _ List.mem_cons_self

/-- no object id is released twice. -/
theorem freed_once (N : Nat) (s : State) (h : Reach cfgFixed (init N) s) : s.freed.Nodup :=
  (inv_reach h).distinct.freedNodup

/-- a retired object is in at most one place: the retire lists (queue + cache cell) of all slots
    are duplicate-free, pairwise disjoint, and disjoint from the released objects. -/
theorem retired_distinct (N : Nat) (s : State) (h : Reach cfgFixed (init N) s) :
    (∀ i, (objsOf s.slots i).Nodup) ∧
    (∀ i k o, o ∈ objsOf s.slots i → o ∈ objsOf s.slots k → i = k) ∧
    (∀ i o, o ∈ objsOf s.slots i → o ∉ s.freed) :=
  let d := (inv_reach h).distinct
  ⟨d.nodupSlot, d.disj, d.notFreed⟩

/-- The scenario: slot 0 claims and loads `E = 1`, then stalls; the epoch advances twice
    (`E = 3`, `G = 2`); slot 1 enters normally (`begin = 3`) and is active; slot 0 publishes the
    stale `1`, becomes active, unlinks and retires object 7 with tag 1 while slot 1 is active
    (witness `[0, 1]`); slot 0 leaves; the epoch thread recomputes `G` from slot 1's `begin`
    (`G = 2 > 1`); the gc thread releases object 7 while slot 1's session is still open. -/
def d3Trace : List Event :=
  [ .claim 0, .loadE 0,
    .eLoadCur, .eCheck 0, .eCheck 1, .eInc, .eMinScan 0, .eMinScan 1, .eSetG,
    .eLoadCur, .eCheck 0, .eCheck 1, .eInc, .eMinScan 0, .eMinScan 1, .eSetG,
    .claim 1, .loadE 1, .publish 1,
    .publish 0, .unlinkRetire 0 7,
    .leaveBegin 0, .leaveRunning 0,
    .eLoadCur, .eCheck 0, .eCheck 1, .eInc, .eMinScan 0, .eMinScan 1, .eSetG,
    .gLoadG 0, .gCache 0, .gPop 0 ]

/-- **D3.** With `assign_thread_info` as it was before the repair (`cfgD3`), an object can be
    released while a session that was active when it was unlinked is still open. -/
theorem D3_counterexample :
    ∃ s, Reach cfgD3 (init 2) s ∧ ∃ obj ∈ s.freed, witness s obj ≠ [] :=
  premature_of_checkRun (evs := d3Trace) (by decide)

/-- A shorter variant: ONE session suffices. Slot 0 stalls between its
    load of `E = 1` and its store while the epoch reaches 3 and the min scan passes slot 0; it
    then publishes the stale 1 and retires object 0 with tag 1; `G := E - 1 = 2`; the gc thread
    releases the object while the retiring session itself is still open. -/
def d3TraceShort : List Event :=
  [ .claim 0, .loadE 0,
    .eLoadCur, .eCheck 0, .eInc, .eMinScan 0, .eSetG,
    .eLoadCur, .eCheck 0, .eInc, .eMinScan 0,
    .publish 0, .unlinkRetire 0 0,
    .eSetG, .gLoadG 0, .gCache 0, .gPop 0 ]

theorem D3_counterexample_one_session :
    ∃ s, Reach cfgD3 (init 1) s ∧ ∃ obj ∈ s.freed, witness s obj ≠ [] :=
  premature_of_checkRun (evs := d3TraceShort) (by decide)

/-- the repaired enter rejects the stale publication of `d3Trace`: after `publish 0` the session is
    not active, so `unlinkRetire 0 7`, the 21st event, is not enabled. -/
example : checkRun cfgFixed (init 2) (d3Trace.take 21) (fun _ => true) = false := by decide

/-- **C07 for the unrepaired enter, partial.** `assign_thread_info` as it was before the repair is
    safe on every run in which the epoch is never incremented while a worker is between its load
    of `E` and its store to `begin` (`ReachAdj`: at every `eInc` no slot is in `loaded`). -/
theorem no_premature_free_partial (N : Nat) (s : State) (h : ReachAdj (init N) s) :
    ∀ obj ∈ s.freed, witness s obj = [] :=
  fun obj ho => ((inv_reachAdj h).ghost.freedA obj ho).2

theorem reachAdj_reach (s0 s : State) (h : ReachAdj s0 s) : Reach cfgD3 s0 s := by
  induction h with
  | refl => exact Reach.refl
  | step _ hs _ ih => exact Reach.step ih hs

/-- Slot 0 enters (repaired enter), retires object 5 with tag 1 and leaves; the epoch advances to
    3; slot 1 enters (`begin = 3`); the epoch advances to 4 and `G := 3 - 1 = 2`; the gc thread
    releases object 5 (`1 < 2`) while slot 1's LATER session is open. -/
def okTrace : List Event :=
  [ .claim 0, .loadE 0, .publish 0, .recheck 0, .unlinkRetire 0 5, .leaveBegin 0, .leaveRunning 0,
    .eLoadCur, .eCheck 0, .eCheck 1, .eInc, .eMinScan 0, .eMinScan 1, .eSetG,
    .eLoadCur, .eCheck 0, .eCheck 1, .eInc, .eMinScan 0, .eMinScan 1, .eSetG,
    .claim 1, .loadE 1, .publish 1, .recheck 1,
    .eLoadCur, .eCheck 0, .eCheck 1, .eInc, .eMinScan 0, .eMinScan 1, .eSetG,
    .gLoadG 0, .gCache 0, .gPop 0 ]

/-- `no_premature_free` is not vacuous: objects do get released in the repaired protocol, even
    while (later) sessions are open. -/
example : ∃ s, Reach cfgFixed (init 2) s ∧ s.freed ≠ [] ∧ (∀ obj ∈ s.freed, witness s obj = []) ∧
    s.pc 1 = .active := by
  have h : checkRun cfgFixed (init 2) okTrace (freedSafelyWhileActiveB 1) = true := by decide
  obtain ⟨s, hr, hp⟩ := exists_of_checkRun h
  simp only [freedSafelyWhileActiveB, Bool.and_eq_true, Bool.not_eq_true', List.isEmpty_eq_false_iff,
    List.all_eq_true, List.isEmpty_iff, decide_eq_true_eq] at hp
  exact ⟨s, hr, hp.1.1, hp.1.2, hp.2⟩

/-- a worker that is delayed in the repaired enter retries instead of becoming active with a stale
    epoch: after the re-check fails its pc is `claimed` again. -/
example : checkRun cfgFixed (init 1)
    [.claim 0, .loadE 0, .eLoadCur, .eCheck 0, .eInc, .publish 0, .recheck 0]
    (fun s => decide (s.pc 0 = .claimed ∧ s.bg 0 = 1 ∧ s.E = 2)) = true := by decide

end Yak.Props.C07
