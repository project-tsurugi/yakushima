import YakModel.Proofs.StorageDDLProofs
import YakModel.Proofs.StorageProofs
/-!
# C13 — Storages are isolated namespaces with map-like create/delete/find/list

First the sequential directory (`Storage`): the concurrent clause "of several concurrent creates of
one name exactly one reports success" is `one_winner` applied to any linearization (C01). Then
`create_storage` / `delete_storage` as a protocol of single steps (`Proto/StorageDDL`, D14).
-/
namespace Yak.Props.C13
open Yak Yak.Tree Yak.Storage

/-- the names of a directory are distinct -/
def WF (s : Stores) : Prop := (s.map (·.1)).Nodup

theorem create_spec (s : Stores) (n : Name) (h : WF s) :
    ((find s n).isSome = true → create s n = (s, Status.WARN_UNIQUE_RESTRICTION)) ∧
    ((find s n) = none → (create s n).2 = Status.OK ∧ WF (create s n).1 ∧
       find (create s n).1 n = some Tree.empty ∧ ∀ m, m ≠ n → find (create s n).1 m = find s m) :=
  Yak.Storage.create_spec s n h

theorem delete_spec (s : Stores) (n : Name) (h : WF s) :
    ((find s n) = none → delete s n = (s, Status.WARN_NOT_EXIST)) ∧
    ((find s n).isSome = true → (delete s n).2 = Status.OK ∧ WF (delete s n).1 ∧
       find (delete s n).1 n = none ∧ ∀ m, m ≠ n → find (delete s n).1 m = find s m) :=
  Yak.Storage.delete_spec s n h

/-- isolation: a data operation on storage `n` (which replaces its tree) is invisible in every
    other storage. -/
theorem isolation (s : Stores) (n m : Name) (t : Tree) (h : m ≠ n) : find (set s n t) m = find s m :=
  Yak.Storage.set_other s n m t h

theorem set_same (s : Stores) (n : Name) (t : Tree) (h : WF s) (he : (find s n).isSome = true) :
    find (set s n t) n = some t ∧ WF (set s n t) := Yak.Storage.set_same s n t h he

/-- list returns all names, each once, in ascending bytewise order. -/
theorem list_sorted (s : Stores) (h : WF s) :
    (list s).Pairwise (fun a b => lexLt a b = true) ∧ ∀ n, n ∈ list s ↔ (find s n).isSome = true :=
  Yak.Storage.list_sorted s h

/-- data operations on an unknown name answer the "missing" result -/
theorem unknown_name {α} (s : Stores) (n : Name) (missing : α) (f : Tree → α) (h : find s n = none) :
    withTree s n missing f = missing := Yak.Storage.withTree_missing s n missing f h

/-- in any sequential order of `k` unique creates of one absent name exactly one succeeds
    (the concurrent clause follows for every linearizable history). -/
theorem one_winner (s : Stores) (n : Name) (h : WF s) (ha : find s n = none) (k : Nat) (hk : 0 < k) :
    let run := (List.range k).foldl
      (fun (acc : Stores × List Status) _ => let r := create acc.1 n; (r.1, acc.2 ++ [r.2])) (s, [])
    run.2.count Status.OK = 1 := Yak.Storage.one_winner s n h ha k hk

/-! ### The concurrent clause: create_storage / delete_storage as a protocol (`Proto/StorageDDL`)

Any number of threads run `create_storage` / `delete_storage` on any names; the directory's own
`put_unique` / `get` / `remove` are atomic steps (they are linearizable, C01), everything else of
`storage_impl.h` is a step of its own: the look-up and the remove of `delete_storage` are TWO steps,
and so are the destruction of the root and the clearing of the root pointer. `Cfg.fix` is the
repaired code (commit "fix: delete_storage calls are serialized"). D14 — found on the real code by
the thorough tier — is the counterexample for the unrepaired one. -/

/-- with the repair no tree is destroyed twice and no destroyed root is touched, in every reachable
    state, for any number of threads, names and operations. -/
theorem ddl_no_double_destroy (c : Yak.Proto.StorageDDL.Cfg) (hf : c.fix = true)
    (s : Yak.Proto.StorageDDL.State) (h : Yak.Proto.StorageDDL.Reach c s) :
    s.uaf = false ∧ s.destroyed.Nodup := Yak.Proto.StorageDDL.no_double_destroy_fixed hf h

/-- a tree is destroyed only by a delete that erased ITS entry, and once all operations have
    returned every erased entry's tree has been destroyed ("delete removes the name and all its
    entries" — nothing leaks). -/
theorem ddl_destroy_matches_remove (c : Yak.Proto.StorageDDL.Cfg) (hf : c.fix = true)
    (s : Yak.Proto.StorageDDL.State) (h : Yak.Proto.StorageDDL.Reach c s) :
    (∀ x ∈ s.destroyed, x ∈ s.removedEntries) ∧
    (Yak.Proto.StorageDDL.Quiescent s → ∀ x ∈ s.removedEntries, x ∈ s.destroyed) :=
  ⟨Yak.Proto.StorageDDL.destroy_matches_remove_fixed hf h,
   fun hq => Yak.Proto.StorageDDL.no_leak_at_quiescence_fixed hf h hq⟩

/-- no registered name ever points to a destroyed tree. -/
theorem ddl_directory_trees_live (c : Yak.Proto.StorageDDL.Cfg) (hf : c.fix = true)
    (s : Yak.Proto.StorageDDL.State) (h : Yak.Proto.StorageDDL.Reach c s) :
    ∀ p ∈ s.dir, s.rootLive p.2 = true ∧ s.rootPtrSet p.2 = true :=
  Yak.Proto.StorageDDL.directory_trees_live hf h

/-- at most one entry per name and one name per tree, in every reachable state (any cfg). That a
    create returns OK iff its `put_unique` found the name absent is `StorageDDL.put_result` and
    `cfin_result`. -/
theorem ddl_one_entry_per_name (c : Yak.Proto.StorageDDL.Cfg) (s : Yak.Proto.StorageDDL.State)
    (h : Yak.Proto.StorageDDL.Reach c s) :
    (s.dir.map (·.1)).Nodup ∧ (s.dir.map (·.2)).Nodup := Yak.Proto.StorageDDL.one_winner h

/-- D14 without the repair: `T0: create n; delete n ‖ T1: create n ‖ T2: delete n` reaches a state
    in which tree 0 has been destroyed twice, and another schedule in which the re-created tree is
    leaked without any double destroy. -/
theorem D14_counterexample :
    (∃ s, Yak.Proto.StorageDDL.Reach {fix := false} s ∧ s.uaf = true ∧ ¬ s.destroyed.Nodup ∧
      Yak.Proto.StorageDDL.Quiescent s) ∧
    (∃ s, Yak.Proto.StorageDDL.Reach {fix := false} s ∧ Yak.Proto.StorageDDL.Quiescent s ∧
      (∃ x ∈ s.removedEntries, x ∉ s.destroyed ∧ s.rootLive x = true) ∧ s.uaf = false) := by
  obtain ⟨s, hr, _, hu, hn, hq⟩ := Yak.Proto.StorageDDL.D14_counterexample
  obtain ⟨s', hr', _, hq', hl, hu'⟩ := Yak.Proto.StorageDDL.D14_leak
  exact ⟨⟨s, hr, hu, hn, hq⟩, ⟨s', hr', hq', hl, hu'⟩⟩

end Yak.Props.C13
