import YakModel.Proto.Ledger
import YakModel.Proofs.LedgerProofs
/-!
# C11 — everything the library allocates is released at the latest by fin(), exactly once

The lemmas live in `YakModel/Proofs/LedgerProofs.lean`; the theorems are stated over the
ownership ledger `Yak.Proto.Ledger` (see its header for the map from events to the `new` /
`delete` / `push_*_container` sites of `/repo/include`). "Reachable" = reachable from process start
(`boot`) by *any* accepted sequence of events, i.e. any number of init()…fin() cycles with any
interleaving of puts, removes, splits, gc passes, storage creation/deletion, destroy and cursors in
them. `live` is the set of heap objects the process holds on behalf of the library; it is updated
on `new` and `delete` only, independently of the four places (`spec`, `linked`, `retired`,
`cursors`) an object can be in.
-/
namespace Yak.Props.C11
open Yak.Proto.Ledger

theorem reach_is_accepted_trace (s : State) : Reach s ↔ ∃ es, exec boot es = some s :=
  ⟨exec_of_reach, fun ⟨es, h⟩ => reach_exec es Reach.boot h⟩

/-- Every live object is in exactly one place and every object in a place is live: `live` is a
    permutation of `spec ++ linked ++ retired ++ cursors`, without duplicates (so the places are
    duplicate-free and pairwise disjoint), and nothing live has been freed. -/
theorem ledger_inv (s : State) (h : Reach s) :
    s.live.Perm (s.spec ++ s.linked ++ s.retired ++ s.cursors) ∧ s.live.Nodup ∧
    (s.spec ++ s.linked ++ s.retired ++ s.cursors).Nodup ∧ (∀ o ∈ s.live, o ∉ s.freed) :=
  have hi := linv_reach h
  ⟨live_perm hi, (live_freed_nodup hi).1, places_nodup hi, fun _ ho => live_not_freed hi ho⟩

/-- Nothing is lost and nothing is invented: the ids handed out so far (`< next`) are exactly the
    ones that are live or freed, and each of them is live or freed exactly once in total. -/
theorem ledger_total (s : State) (h : Reach s) (o : Nat) :
    (o < s.next ↔ (o ∈ s.live ∨ o ∈ s.freed)) ∧
    (o < s.next → s.live.count o + s.freed.count o = 1) ∧
    (s.next ≤ o → o ∉ s.live ∧ o ∉ s.freed) :=
  have hi := linv_reach h
  ⟨allocated_iff hi o, hi.acct.total o,
    fun hle => not_or.mp (mt (allocated_iff hi o).mpr (Nat.not_lt.mpr hle))⟩

/-- While the library is down (before init(), after fin()) it owns nothing but the cursors the
    caller has not closed. -/
theorem down_owns_only_cursors (s : State) (h : Reach s) (hd : s.up = false) :
    s.spec = [] ∧ s.linked = [] ∧ s.retired = [] ∧ s.live.Perm s.cursors := by
  have hi := linv_reach h
  obtain ⟨h1, h2, h3⟩ := hi.down hd
  exact ⟨h1, h2, h3, live_eq_cursors hi hd ▸ List.Perm.refl _⟩

/-- Each object is released at most once: the list of all frees ever performed has no duplicates;
    the tagged log is that list, so a freed object has exactly one freeing event kind. -/
theorem no_double_free (s : State) (h : Reach s) :
    s.freed.Nodup ∧ s.log.map Prod.fst = s.freed ∧
    (∀ o ∈ s.freed, ∃ c, (o, c) ∈ s.log ∧ ∀ c', (o, c') ∈ s.log → c' = c) :=
  have hi := linv_reach h
  ⟨(live_freed_nodup hi).2.1, hi.log, fun _ ho =>
    let ⟨c, hc⟩ := cause_exists hi ho
    ⟨c, hc, fun _ hc' => cause_unique hi hc' hc⟩⟩

/-- Freed is final: a freed id stays freed along every continuation, is in no place, and every
    event that would touch it again — a second `gcFree`/`discard`/`dropFree`/`closeCursor`, or a
    `publish`/`unlinkRetire` of dangling memory — is rejected. (Ids are never reused, so this is not
    an artefact of address recycling.) -/
theorem freed_is_final (s : State) (h : Reach s) (o : Nat) (hf : o ∈ s.freed)
    (es : List Event) (s' : State) (he : exec s es = some s') :
    o ∈ s'.freed ∧ o ∉ s'.live ∧ o ∉ s'.spec ∧ o ∉ s'.linked ∧ o ∉ s'.retired ∧ o ∉ s'.cursors ∧
    step? s' (.publish o) = none ∧ step? s' (.discard o) = none ∧
    step? s' (.unlinkRetire o) = none ∧ step? s' (.gcFree o) = none ∧
    step? s' (.dropFree o) = none ∧ step? s' (.closeCursor o) = none := by
  have hi' := linv_reach (reach_exec es h he)
  have hf' : o ∈ s'.freed := (exec_freed_suffix es he).subset hf
  obtain ⟨a, b, c, d, e⟩ := freed_no_place hi' hf'
  exact ⟨hf', a, b, c, d, e, by simp [step?, b, c, d, e]⟩

theorem freed_grows (s : State) (es : List Event) (s' : State) (he : exec s es = some s') :
    s.freed <:+ s'.freed := exec_freed_suffix es he

/-- An object that was ever handed to `push_node_container` / `push_value_container` is, in every
    reachable state, either still waiting in a retire queue — once, and not freed — or freed —
    once, by `gcFree` or by the drain in `fin`, and by exactly one of the two. -/
theorem retired_freed_exactly_once (s : State) (h : Reach s) (o : Nat) (he : o ∈ s.everRetired) :
    (o ∈ s.retired ∧ s.retired.count o = 1 ∧ o ∉ s.freed) ∨
    (o ∉ s.retired ∧ s.freed.count o = 1 ∧
      ∃ c, (o, c) ∈ s.log ∧ (c = .gc ∨ c = .finRetired) ∧ ∀ c', (o, c') ∈ s.log → c' = c) := by
  have hi := linv_reach h
  have h1 := hi.ever o he
  by_cases hr : o ∈ s.retired
  · have := count_mem hr
    exact Or.inl ⟨hr, by omega, fun hf => by have := count_mem hf; omega⟩
  · have h0 := List.count_eq_zero_of_not_mem hr
    have hf : o ∈ s.freed := List.count_pos_iff.mp (by omega)
    obtain ⟨c, hc⟩ := cause_exists hi hf
    exact Or.inr ⟨hr, by omega, c, hc, (hi.cause o c hc).mpr he, fun c' hc' => cause_unique hi hc' hc⟩

/-- Conversely the gc and the drain in `fin` free nothing but retired objects, and the direct
    release paths (`discard`, `dropFree`, `destroy`, the tree part of `fin`, `closeCursor`) never
    free an object that is or was in a retire queue. -/
theorem gc_frees_only_retired (s : State) (h : Reach s) (o : Nat) (c : Cause)
    (hl : (o, c) ∈ s.log) : (c = .gc ∨ c = .finRetired) ↔ o ∈ s.everRetired :=
  (linv_reach h).cause o c hl

/-- Everything in a retire queue has been retired (ghost sanity), is live, and is not linked:
    a retired object is unreachable from every storage root. -/
theorem retired_unlinked (s : State) (h : Reach s) (o : Nat) (hr : o ∈ s.retired) :
    o ∈ s.everRetired ∧ o ∈ s.live ∧ o ∉ s.linked ∧ o ∉ s.spec ∧ o ∉ s.cursors ∧ o ∉ s.freed := by
  have hi := linv_reach h
  have h1 := count_mem hr
  have h2 := hi.one_place o
  have hl : o ∈ s.live := place_live hi (Or.inr (Or.inr (Or.inl hr)))
  refine ⟨hi.retEver o hr, hl, ?_, ?_, ?_, live_not_freed hi hl⟩ <;>
    exact List.count_eq_zero.mp (by omega)

/-- After fin() no retired object is left: every object ever retired has been freed exactly once. -/
theorem retired_all_freed_by_fin (s s' : State) (h : Reach s) (hs : Step s .fin s') (o : Nat)
    (he : o ∈ s'.everRetired) : s'.freed.count o = 1 ∧ o ∉ s'.live :=
  ever_freed (linv_reach (Reach.step h hs)) (fin_spec (linv_reach h) hs).2.2.2.2.1 he

theorem fin_enabled (s : State) (hup : s.up = true) (hspec : s.spec = []) :
    ∃ s', step? s .fin = some s' := ⟨_, if_pos ⟨hup, hspec⟩⟩

/-- After fin() — following any sequence of operations — the library-owned live objects are
    exactly the cursors the caller still holds open; no tree node, value, storage root or retired
    object is left, and everything that was linked or retired is now freed. -/
theorem fin_releases_all (s s' : State) (h : Reach s) (hs : Step s .fin s') :
    s'.live = s'.cursors ∧ s'.cursors = s.cursors ∧ s'.spec = [] ∧ s'.linked = [] ∧
    s'.retired = [] ∧ s'.up = false ∧
    (∀ o, o ∈ s.linked ∨ o ∈ s.retired → o ∈ s'.freed ∧ o ∉ s'.live) := by
  obtain ⟨h1, h2, h3, h4, h5, h6, h8⟩ := fin_spec (linv_reach h) hs
  refine ⟨h1, h2, h3, h4, h5, h6, fun o ho => ?_⟩
  have hf : o ∈ s'.freed := by
    rw [h8]
    rcases ho with ho | ho
    · exact List.mem_append_right _ (List.mem_append_left _ ho)
    · exact List.mem_append_left _ ho
  exact ⟨hf, fun hl => live_not_freed (linv_reach (Reach.step h hs)) hl hf⟩

/-- In particular, with no cursor open, the process holds after fin() exactly what it holds after
    a fin() that followed no operations at all (`[init, fin]`): nothing. -/
theorem fin_like_empty_cycle (s s' : State) (h : Reach s) (hs : Step s .fin s')
    (hc : s.cursors = []) :
    ∃ s₀, exec boot [.init, .fin] = some s₀ ∧ s'.live = s₀.live ∧ s'.live = [] := by
  obtain ⟨h1, h2, _⟩ := fin_releases_all s s' h hs
  exact ⟨_, rfl, by rw [h1, h2, hc]; rfl, by rw [h1, h2, hc]⟩

/-- With cursors open, closing them (legal after fin) brings `live` to the empty-cycle level. -/
theorem fin_then_close_cursors (s s' : State) (h : Reach s) (hs : Step s .fin s') :
    ∃ s'', exec s' (s'.cursors.map .closeCursor) = some s'' ∧ s''.live = [] ∧ s''.cursors = [] ∧
      s''.up = false := by
  obtain ⟨h1, _, _, _, _, h6, _⟩ := fin_releases_all s s' h hs
  exact close_all s'.cursors h1 rfl h6

/-- A speculative allocation that is not published (unique-insert that finds the key after having
    built a root, `create_storage` whose directory put fails) is released on the spot: `alloc`
    followed by `discard` of that object is accepted in every up state and leaves `live` and every
    place unchanged — only a fresh id is consumed and recorded as freed. -/
theorem failed_speculation_balanced (s : State) (hup : s.up = true) :
    ∃ s', exec s [.alloc, .discard s.next] = some s' ∧
      s'.live = s.live ∧ s'.spec = s.spec ∧ s'.linked = s.linked ∧ s'.retired = s.retired ∧
      s'.cursors = s.cursors ∧ s'.freed = s.next :: s.freed ∧ s'.up = true :=
  ⟨_, alloc_discard hup, rfl, rfl, rfl, rfl, rfl, rfl, hup⟩

/-- the lost root CAS of `put`: speculative border *and* its value, both released -/
theorem failed_root_cas_balanced (s : State) (hup : s.up = true) :
    ∃ s', exec s [.alloc, .alloc, .discard (s.next + 1), .discard s.next] = some s' ∧
      s'.live = s.live ∧ s'.spec = s.spec ∧ s'.linked = s.linked ∧ s'.retired = s.retired ∧
      s'.cursors = s.cursors :=
  ⟨_, alloc2_discard2 hup, rfl, rfl, rfl, rfl, rfl⟩

/-- A speculative object cannot leak past fin(): fin is not enabled while one exists, and the
    only ways out of `spec` are `publish` (→ linked) and `discard` (→ freed). -/
theorem spec_blocks_fin (s : State) (o : Nat) (ho : o ∈ s.spec) : step? s .fin = none :=
  if_neg fun g => List.ne_nil_of_mem ho g.2

/-- `destroy` frees every linked object and nothing else. -/
theorem destroy_releases (s s' : State) (h : Reach s) (hs : Step s .destroy s') :
    s'.linked = [] ∧ (∀ o ∈ s.linked, o ∉ s'.live ∧ o ∈ s'.freed) ∧
    s'.spec = s.spec ∧ s'.retired = s.retired ∧ s'.cursors = s.cursors ∧ s'.up = s.up ∧
    (∀ o, o ∈ s'.live ↔ (o ∈ s.live ∧ o ∉ s.linked)) := by
  simp only [Step, step?, Option.ite_none_right_eq_some, Option.some.injEq] at hs
  obtain ⟨_, rfl⟩ := hs
  exact ⟨rfl, fun o ho => by simp [State.recordFree, ho], rfl, rfl, rfl, rfl,
    fun o => by simp [State.recordFree, List.mem_filter]⟩

theorem destroy_enabled (s : State) (hup : s.up = true) : ∃ s', step? s .destroy = some s' :=
  ⟨_, if_pos hup⟩

/-- `delete_storage`: for any set `T` of linked objects (the dropped tree: its nodes, values and
    lower layers), freeing them one by one in any order is accepted, afterwards none of them is
    live or linked, all are freed, the rest of the linked set and every other place are
    untouched. -/
theorem delete_and_destroy_release (s : State) (h : Reach s) (hup : s.up = true) (T : List Nat)
    (hnd : T.Nodup) (hT : ∀ o ∈ T, o ∈ s.linked) :
    ∃ s', exec s (T.map .dropFree) = some s' ∧
      (∀ o ∈ T, o ∉ s'.live ∧ o ∉ s'.linked ∧ o ∈ s'.freed) ∧
      (∀ o, o ∈ s'.linked ↔ (o ∈ s.linked ∧ o ∉ T)) ∧
      s'.spec = s.spec ∧ s'.retired = s.retired ∧ s'.cursors = s.cursors :=
  let ⟨s', he, hf, r⟩ := dropFree_tree T (linv_reach h) hup hnd hT
  ⟨s', he, fun o ho =>
    let ⟨hl, _, hk, _⟩ := freed_no_place (linv_reach (reach_exec _ h he)) (hf o ho)
    ⟨hl, hk, hf o ho⟩, r⟩

/-- One cycle with a storage creation, puts, a border split, an overwrite, a gc pass, a remove
    that empties a border, an open cursor; the examples append `fin`.

```
alloc 0,1,2      create_storage: root border of the new storage; root border + value of the
                 directory entry (first put into the directory tree: root creation)
publish 1,2,0    root CAS won, storage visible
alloc 3; publish 3          put k1 (value)
alloc 4,5,6; publish 5,6,4  put k2: border full -> new border 5, new interior root 6, value 4
alloc 7; publish 7; unlinkRetire 3   overwrite k1: old value retired
openCursor (8)
gcFree 3                    gc pass
unlinkRetire 4, 5           remove k2: value retired, emptied border retired
```
-/
def demo : List Event :=
  [.init, .alloc, .alloc, .alloc, .publish 1, .publish 2, .publish 0,
   .alloc, .publish 3,
   .alloc, .alloc, .alloc, .publish 5, .publish 6, .publish 4,
   .alloc, .publish 7, .unlinkRetire 3,
   .openCursor,
   .gcFree 3,
   .unlinkRetire 4, .unlinkRetire 5]

example : ∃ s, exec boot demo = some s ∧ s.up = true ∧ s.spec = [] ∧
    s.live = [8, 7, 6, 5, 4, 2, 1, 0] ∧ s.linked = [7, 6, 0, 2, 1] ∧ s.retired = [4, 5] ∧
    s.cursors = [8] ∧ s.freed = [3] ∧ s.log = [(3, .gc)] ∧ s.everRetired = [5, 4, 3] :=
  ⟨_, rfl, rfl, rfl, rfl, rfl, rfl, rfl, rfl, rfl, rfl⟩

example : ∃ s, exec boot (demo ++ [.fin]) = some s ∧ s.up = false ∧
    s.live = [8] ∧ s.cursors = [8] ∧ s.linked = [] ∧ s.retired = [] ∧
    s.log = [(4, .finRetired), (5, .finRetired), (7, .finLinked), (6, .finLinked), (0, .finLinked),
             (2, .finLinked), (1, .finLinked), (3, .gc)] :=
  ⟨_, rfl, rfl, rfl, rfl, rfl, rfl, rfl⟩

/-- … and after the caller closes its cursor the ledger is where `[init, fin]` leaves it. -/
example : ∃ s s₀, exec boot (demo ++ [.fin, .closeCursor 8]) = some s ∧
    exec boot emptyCycle = some s₀ ∧ s.live = s₀.live ∧ s.live = [] :=
  ⟨_, _, rfl, rfl, rfl, rfl⟩

/-- a second cycle after the first, with a failed create_storage and a delete_storage in it -/
example : ∃ s, exec boot (demo ++ [.fin, .init, .alloc, .alloc, .alloc, .publish 10, .publish 11,
      .publish 9, .alloc, .discard 12, .dropFree 9, .dropFree 11, .unlinkRetire 10, .fin]) = some s ∧
    s.live = [8] ∧ s.next = 13 ∧ s.freed.length = 12 :=
  ⟨_, rfl, rfl, rfl, rfl⟩

/-- the acceptor rejects a double free (by the gc, of a cursor), a free of a linked object through the
    gc, a discard of a published object, a `delete_storage` free of a retired object, fin with an
    operation in flight, and an allocation after fin -/
example : exec boot (demo ++ [.gcFree 3]) = none := rfl
example : exec boot (demo ++ [.gcFree 7]) = none := rfl
example : exec boot (demo ++ [.discard 7]) = none := rfl
example : exec boot (demo ++ [.dropFree 4]) = none := rfl
example : exec boot (demo ++ [.alloc, .fin]) = none := rfl
example : exec boot (demo ++ [.fin, .alloc]) = none := rfl
example : exec boot (demo ++ [.closeCursor 8, .closeCursor 8]) = none := rfl

end Yak.Props.C11
