import YakModel.Proofs.ValueProofs
/-!
# C15 — Values round-trip with exact bytes, length, alignment (layout part)

The byte round-trip through put/get/scan/iscan is part of the sequential refinement (C02/C03/C10:
the model stores the bytes). Here: the block layout arithmetic and the pointer tagging.
-/
namespace Yak.Props.C15
open Yak.Value Yak.Const

/-- the body address is aligned to the requested alignment, for every power-of-two alignment that
    fits the 16-bit header field, given that the allocator honoured the (effective) alignment. -/
theorem body_aligned (base len k : Nat) (hk : k ≤ 15) (hbase : base % effAlign (2^k) = 0) :
    bodyAddr base (mkHeader len (2^k)) % 2^k = 0 := Yak.Value.body_aligned base len k hk hbase

/-- header and body do not overlap and the body lies inside the allocated block. -/
theorem regions (base len k : Nat) (hk : k ≤ 15) (hl : len < 2^32) :
    base + headerBytes ≤ bodyAddr base (mkHeader len (2^k)) ∧
    bodyAddr base (mkHeader len (2^k)) + getLen (mkHeader len (2^k)) ≤ base + totalLen len (2^k) :=
  Yak.Value.regions base len k hk hl

/-- the (size, alignment) handed to sized `operator delete` equal those requested from `new`. -/
theorem gc_size_matches_alloc (len k : Nat) (hk : k ≤ 15) (hl : len < 2^32) :
    gcInfo (mkHeader len (2^k)) = (totalLen len (2^k), effAlign (2^k)) :=
  Yak.Value.gc_size_matches_alloc len k hk hl

/-- length round-trip within the header field width. -/
theorem len_roundtrip (len align : Nat) (hl : len < 2^32) : getLen (mkHeader len align) = len :=
  Yak.Value.len_roundtrip len align hl

/-- tagging round-trip for addresses below 2^62 (bits 62 and 63 of a slot word are the tags). -/
theorem tag_roundtrip (a : W) (ha : a.toNat < 2^62) :
    untag (tagValue a) = a ∧ isValuePtr (tagValue a) = true ∧
    (a ≠ 0#64 → classify (tagValue a) = .outOfLine a) := Yak.Value.tag_roundtrip a ha

/-- pointer-typed (inline) values are stored and returned by value. -/
theorem inline_by_value (v : W) (hv : v.toNat < 2^62) : classify v = .inlineVal v :=
  Yak.Value.inline_by_value v hv

/-- a next-layer link is recognised as a link and returns the child address. -/
theorem link_roundtrip (c : W) (hc : c.toNat < 2^62) : classify (setNextLayer c) = .link c :=
  Yak.Value.link_roundtrip c hc

end Yak.Props.C15
