import YakModel.Proto.NodeSet
import YakModel.Proofs.NodeSetProofs
/-!
# C06 — A concurrent insert is seen by the scan or invalidates its node-version set

The model is `YakModel/Proto/NodeSet.lean` (a chain of border nodes with fences, any number of
inserting writers including splits, any number of scanners that collect (version, node) pairs,
`NodeRec = (leaf id, vins, vsplit)`); the proofs are in `YakModel/Proofs/NodeSet*.lean`. All statements
quantify over every reachable state, i.e. every interleaving of every number of writers and
scanners, for every capacity. Removes are not part of the model (the property is about inserts).

Vocabulary: `s.sc t = .fin a b keys nodes` — scanner `t` has returned from its scan of `[a, b]`
with result `keys` and collected set `nodes`; `k ∈ s.completed` — an insert of `k` has done its
last unlock; `Stale s nodes` — some collected pair differs from the counters its leaf has now;
`Present s k` — `k` is stored in the chain.
-/
namespace Yak.Props.C06
open Yak.Proto.NodeSet

/-- once a scan and an insert of a key of the scanned interval have both completed, the key is in
    the scan's result or at least one collected (version, node) pair is stale. -/
theorem scan_insert_seen_or_stale (c : Cfg) (s : State) (h : Reach c s) (t a b : Nat)
    (keys : List Nat) (nodes : List NodeRec) (hfin : s.sc t = .fin a b keys nodes) (k : Nat)
    (hk : k ∈ s.completed) (ha : a ≤ k) (hb : k ≤ b) : k ∈ keys ∨ Stale s nodes :=
  Yak.Proto.NodeSet.scan_insert_seen_or_stale h hfin hk ha hb

/-- once a scan has completed, every stored key of the scanned interval that no writer is still
    publishing is in the scan's result or at least one collected (version, node) pair is stale.
    A completed insert is a special case (`scan_insert_seen_or_stale`); so is a key whose split
    has unlocked the leaf but not yet its new sibling. -/
theorem scan_present_seen_or_stale (c : Cfg) (s : State) (h : Reach c s) (t a b : Nat)
    (keys : List Nat) (nodes : List NodeRec) (hfin : s.sc t = .fin a b keys nodes) (k : Nat)
    (hp : Present s k) (hnf : ∀ t', ¬ (s.w t').inFlight k) (ha : a ≤ k) (hb : k ≤ b) :
    k ∈ keys ∨ Stale s nodes :=
  Yak.Proto.NodeSet.scan_present_seen_or_stale h hfin hp hnf ha hb

/-- counters only grow: every leaf persists (same id, same fence) with counters at least as large
    in every later state. -/
theorem counters_monotone (c : Cfg) (s s' : State) (h : Reach c s) (h' : ReachFrom c s s') :
    ∀ L ∈ s.chain, ∃ L' ∈ s'.chain,
      L'.id = L.id ∧ L'.lo = L.lo ∧ L.vins ≤ L'.vins ∧ L.vsplit ≤ L'.vsplit :=
  Yak.Proto.NodeSet.counters_monotone h h'

/-- a finished scan keeps its result and its collected pairs in every later state, and a pair
    that is stale stays stale (counters only grow): a later re-validation of the collected pairs
    cannot miss the change. -/
theorem stale_forever (c : Cfg) (s s' : State) (h : Reach c s) (h' : ReachFrom c s s') (t a b : Nat)
    (keys : List Nat) (nodes : List NodeRec) (hfin : s.sc t = .fin a b keys nodes)
    (hst : Stale s nodes) : s'.sc t = .fin a b keys nodes ∧ Stale s' nodes :=
  ⟨Yak.Proto.NodeSet.fin_persistent (inv_reach h) h' hfin, Yak.Proto.NodeSet.stale_forever h h' hfin hst⟩

/-- every collected pair names a leaf of the chain and is not ahead of its counters. -/
theorem records_sound (c : Cfg) (s : State) (h : Reach c s) (t a b : Nat)
    (keys : List Nat) (nodes : List NodeRec) (hfin : s.sc t = .fin a b keys nodes) :
    ∀ r ∈ nodes, ∃ L ∈ s.chain, L.id = r.1 ∧ r.2.1 ≤ L.vins ∧ r.2.2 ≤ L.vsplit :=
  Yak.Proto.NodeSet.records_sound h hfin

/-- "Consequently": a transaction that re-validates the collected pairs, finds them all unchanged
    and finds no collected leaf in the middle of a modification has read exactly the keys of the
    interval that exist. -/
theorem validated_scan_is_exact (c : Cfg) (s : State) (h : Reach c s) (t a b : Nat)
    (keys : List Nat) (nodes : List NodeRec) (hfin : s.sc t = .fin a b keys nodes)
    (hns : ¬ Stale s nodes)
    (hclean : ∀ r ∈ nodes, ∀ L ∈ s.chain, L.id = r.1 → L.dirty = false) :
    ∀ k, k ∈ keys ↔ (a ≤ k ∧ k ≤ b ∧ Present s k) :=
  Yak.Proto.NodeSet.validated_scan_is_exact h hfin hns hclean

/-- 2 is inserted, a scan of [1, 4] runs to completion, then 3 is inserted. -/
def missedRun : List Event :=
  [.wLock 0 2 0, .wInsert 0, .wUnlock 0,
   .sStart 0 1 4, .sEnter 0 0, .sLoadVer 0, .sSnapshot 0, .sValidate 0,
   .wLock 1 3 0, .wInsert 1, .wUnlock 1]

/-- the scan returned `[2]` with the pair `(leaf 0, vins 1, vsplit 0)`; the later insert of 3 has
    completed, is not in the result, and leaf 0 now has `vins = 2`: the pair is stale. -/
example : (exec ⟨3⟩ init missedRun).map (fun s => (s.sc 0, s.completed, s.chain)) =
    some (.fin 1 4 [2] [(0, 1, 0)], [3, 2], [⟨0, 0, [2, 3], 2, 0, false, false⟩]) := by decide

/-- four inserts (the fourth finds leaf 0 full at capacity 3 and splits it), then a scan of [1, 6]
    that walks both leaves while nothing else runs. -/
def exactRun : List Event :=
  [.wLock 0 1 0, .wInsert 0, .wUnlock 0, .wLock 0 3 0, .wInsert 0, .wUnlock 0,
   .wLock 0 5 0, .wInsert 0, .wUnlock 0, .wLock 1 4 0, .wSplit 1, .wUnlockL 1, .wUnlockR 1,
   .sStart 0 1 6, .sEnter 0 0, .sLoadVer 0, .sSnapshot 0, .sValidate 0,
   .sLoadVer 0, .sSnapshot 0, .sValidate 0]

/-- both leaves are collected with their current counters and the result is exactly the stored
    keys of the interval. -/
theorem exactRun_result : (exec ⟨3⟩ init exactRun).map (fun s => (s.sc 0, s.chain)) =
    some (.fin 1 6 [1, 3, 4, 5] [(0, 4, 1), (1, 4, 1)],
      [⟨0, 0, [1, 3, 4], 4, 1, false, false⟩, ⟨1, 5, [5], 4, 1, false, false⟩]) := by decide

example : (exec ⟨3⟩ init exactRun).map (fun s => (s.sc 0, s.chain)) =
    some (.fin 1 6 [1, 3, 4, 5] [(0, 4, 1), (1, 4, 1)],
      [⟨0, 0, [1, 3, 4], 4, 1, false, false⟩, ⟨1, 5, [5], 4, 1, false, false⟩]) := exactRun_result

/-- a scan overtaken by a split: the scanner has collected leaf 0 (the only leaf), then an insert
    of 6 splits it. -/
def splitRun : List Event :=
  [.wLock 0 1 0, .wInsert 0, .wUnlock 0, .wLock 0 3 0, .wInsert 0, .wUnlock 0,
   .wLock 0 5 0, .wInsert 0, .wUnlock 0,
   .sStart 0 1 6, .sEnter 0 0, .sLoadVer 0, .sSnapshot 0, .sValidate 0,
   .wLock 1 6 0, .wSplit 1, .wUnlockL 1, .wUnlockR 1]

/-- the result `[1, 3, 5]` misses the completed insert of 6, which went into the new leaf 1 that
    was never collected; the collected pair of leaf 0 says `vsplit 0`, the leaf now has
    `vsplit 1`. -/
theorem splitRun_result : (exec ⟨3⟩ init splitRun).map (fun s => (s.sc 0, s.completed, s.chain)) =
    some (.fin 1 6 [1, 3, 5] [(0, 3, 0)], [6, 5, 3, 1],
      [⟨0, 0, [1, 3], 4, 1, false, false⟩, ⟨1, 5, [5, 6], 4, 1, false, false⟩]) := by decide

example : (exec ⟨3⟩ init splitRun).map (fun s => (s.sc 0, s.completed, s.chain)) =
    some (.fin 1 6 [1, 3, 5] [(0, 3, 0)], [6, 5, 3, 1],
      [⟨0, 0, [1, 3], 4, 1, false, false⟩, ⟨1, 5, [5, 6], 4, 1, false, false⟩]) := splitRun_result

/-- the hypotheses of `scan_insert_seen_or_stale` are satisfiable with the key absent from the
    result: the `Stale` disjunct cannot be dropped. -/
theorem stale_disjunct_needed : ∃ s, Reach ⟨3⟩ s ∧ ∃ keys nodes,
    s.sc 0 = .fin 1 6 keys nodes ∧ 6 ∈ s.completed ∧ 6 ∉ keys := by
  obtain ⟨s, hr, hv⟩ := reach_of_exec_map splitRun_result
  simp only [Prod.mk.injEq] at hv
  exact ⟨s, hr, [1, 3, 5], [(0, 3, 0)], hv.1, by rw [hv.2.1]; decide, by decide⟩

/-- the hypotheses of `validated_scan_is_exact` are satisfiable by a scan that collected two
    leaves. -/
theorem exact_hypotheses_satisfiable : ∃ s, Reach ⟨3⟩ s ∧ ∃ keys nodes,
    s.sc 0 = .fin 1 6 keys nodes ∧ nodes.length = 2 ∧ ¬ Stale s nodes ∧
    (∀ r ∈ nodes, ∀ L ∈ s.chain, L.id = r.1 → L.dirty = false) := by
  obtain ⟨s, hr, hv⟩ := reach_of_exec_map exactRun_result
  simp only [Prod.mk.injEq] at hv
  refine ⟨s, hr, [1, 3, 4, 5], [(0, 4, 1), (1, 4, 1)], hv.1, rfl, ?_, ?_⟩
  · unfold Stale
    rw [hv.2]
    decide
  · rw [hv.2]
    decide

end Yak.Props.C06
