import YakModel.Proofs.ShapeProofs
/-!
# C20 — mem_usage reports the real shape and footprint of a storage

`Shape.memNode` is `base_node::mem_usage` over one layer's B+-tree as dumped from the
implementation (`BTree`), `memAll`/`memUsage` follow the links into next layers. The statements
are over every `BTree` (any fan-out, depth, occupancy).
-/
namespace Yak.Props.C20
open Yak Yak.Shape

/-- number of nodes of a tree at each relative depth -/
def countAt : BTree → Nat → Nat
  | .border _ _, d => if d = 0 then 1 else 0
  | .interior _ _ cs, d => if d = 0 then 1 else countAtList cs (d - 1)
where countAtList : List BTree → Nat → Nat
  | [], _ => 0
  | c :: cs, d => countAt c d + countAtList cs d

/-- one node is counted per node, at its own level: after `memNode t lvl`, the count of row
    `lvl + d` has grown by the number of nodes of `t` at relative depth `d`. -/
theorem memNode_counts (t : BTree) (lvl d : Nat) (rows : List MemRow) (links : List (List UInt8 × Nat)) :
    ((memNode t lvl (rows, links)).1.getD (lvl + d) ⟨0, 0, 0⟩).count =
      (rows.getD (lvl + d) ⟨0, 0, 0⟩).count + countAt t d :=
  -- the lemma is stated for any counting function satisfying these four equations, so that
  -- `ShapeProofs` need not know `countAt`
  Yak.Shape.memNode_counts countAt countAt.countAtList
    ⟨fun _ _ _ => rfl, fun _ _ _ _ => rfl, fun _ => rfl, fun _ _ _ => rfl⟩ t lvl d rows links

/-- used bytes never exceed reserved bytes, row by row. The occupancy bound `hw` is not used: the
    unused slots are subtracted with truncation, so `used ≤ reserved` holds of any node. -/
theorem used_le_reserved (t : BTree) (lvl : Nat) (rows : List MemRow) (links : List (List UInt8 × Nat))
    (hw : checkInteriors t = true) (h : ∀ r ∈ rows, r.used ≤ r.reserved) :
    ∀ r ∈ (memNode t lvl (rows, links)).1, r.used ≤ r.reserved :=
  Yak.Shape.used_le_reserved t lvl rows links hw h

/-- used bytes of a border node grow with its occupancy (one slot word per occupied entry plus
    the values' allocated sizes); reserved bytes are the node size plus the values' sizes. -/
theorem border_row (v : DVer) (ents : List DEnt) (lvl : Nat) (he : ents.length ≤ 15) :
    let r := (memBorder [] lvl ents).getD lvl ⟨0, 0, 0⟩
    let vals := (ents.filterMap (·.val)).map (fun x => x.len + x.align)
    r.count = 1 ∧ r.reserved = Yak.Const.sizeofBorder + vals.sum ∧
    r.used = Yak.Const.sizeofBorder - (15 - ents.length) * 8 + vals.sum :=
  Yak.Shape.border_row v ents lvl he

/-- next-layer roots are entered one level below the leaf that links them. -/
theorem links_one_below (v : DVer) (ents : List DEnt) (lvl : Nat) (rows : List MemRow) :
    (memNode (.border v ents) lvl (rows, [])).2 =
      ents.filterMap (fun e => match e.val with | none => some (e.kt.slice, lvl + 1) | some _ => none) :=
  Yak.Shape.links_one_below v ents lvl rows

end Yak.Props.C20
