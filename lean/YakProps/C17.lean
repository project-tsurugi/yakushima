import YakModel.Proofs.VersionProofs
import YakModel.Proto.VSys
import YakModel.Proofs.VSysProofs
import YakModel.Proofs.VersCheckProofs
/-!
# C17 — The node version word obeys the lock / dirty-bit / counter protocol

Statements quantify over all 2^64 words and, for the concurrent part, over every reachable state
of `VSys` (any number of threads, weak CAS that may fail spuriously, any interleaving).
-/
namespace Yak.Props.C17
open Yak.Version

/-- the eight bit-fields tile the 64-bit word: `encode`/`decode` are inverse bijections. -/
theorem layout_partition_left (b : Body) : decode (encode b) = b := Yak.Version.decode_encode b
theorem layout_partition_right (w : W) : encode (decode w) = w := Yak.Version.encode_decode w

/-- unlock clears the lock and both dirty bits, on every word. -/
theorem unlock_clears (w : W) :
    (decode (unlockW w)).locked = false ∧ (decode (unlockW w)).inserting = false ∧
    (decode (unlockW w)).splitting = false := Yak.Version.unlock_clears w

/-- unlock increments the insert counter iff an insert was flagged — modulo 2^29 inside its own
    field (`BitVec 29` addition) — and the split counter iff a split was flagged. -/
theorem unlock_counters (w : W) :
    (decode (unlockW w)).vinsert =
      (if (decode w).inserting then (decode w).vinsert + 1 else (decode w).vinsert) ∧
    (decode (unlockW w)).vsplit =
      (if (decode w).splitting then (decode w).vsplit + 1 else (decode w).vsplit) := by
  rw [decode_unlockW, Body.unlock_eq]
  exact ⟨rfl, rfl⟩

/-- unlock leaves every other field untouched. -/
theorem unlock_others (w : W) :
    (decode (unlockW w)).deleted = (decode w).deleted ∧ (decode (unlockW w)).root = (decode w).root ∧
    (decode (unlockW w)).border = (decode w).border := by
  rw [decode_unlockW, Body.unlock_eq]
  exact ⟨rfl, rfl, rfl⟩

/-- the field view and plain 64-bit arithmetic agree: no carry ever leaves a counter field. -/
theorem unlock_word_arith (w : W) : unlockW w = unlockArith w := Yak.Version.unlockW_eq_arith w

/-- wrap-around boundary: from counter 2^29-1 an insert-flagged unlock yields counter 0 and does
    not disturb the neighbouring bits. -/
theorem unlock_wraps (b : Body) (h : b.vinsert = BitVec.ofNat 29 (2^29 - 1)) (hi : b.inserting = true) :
    (decode (unlockW (encode b))).vinsert = 0 ∧ (decode (unlockW (encode b))).vsplit =
      (if b.splitting then b.vsplit + 1 else b.vsplit) := Yak.Version.unlock_wraps b h hi

/-- each flag setter changes exactly its own field. -/
theorem setters_local (w : W) (tf : Bool) :
    decode (setRootW w tf) = { decode w with root := tf } ∧
    decode (setBorderW w tf) = { decode w with border := tf } ∧
    decode (setDeletedW w tf) = { decode w with deleted := tf } ∧
    decode (setInsertingW w tf) = { decode w with inserting := tf } ∧
    decode (setSplittingW w tf) = { decode w with splitting := tf } ∧
    decode (lockW w) = { decode w with locked := true } := Yak.Version.setters_local w tf

open Yak.Proto.VSys in
/-- lock is mutually exclusive: in every reachable state at most one thread holds the lock, and
    while one does the word's lock bit is set. -/
theorem lock_mutex (b0 : Body) (hb : b0.locked = false) (s : State) (h : Reach (init b0) s) :
    (∀ t1 t2, s.holds t1 = true → s.holds t2 = true → t1 = t2) ∧
    (∀ t, s.holds t = true → s.word.locked = true) := Yak.Proto.VSys.lock_mutex b0 hb s h

open Yak.Proto.VSys in
/-- a stable version is never returned while the node is locked or dirty. -/
theorem stable_is_clean (s : State) (t : Nat) (b : Body) (s' : State)
    (h : Step s (.stableRead t b) s') : b.locked = false ∧ b.inserting = false ∧ b.splitting = false :=
  Yak.Proto.VSys.stable_is_clean s t b s' h

open Yak.Proto.VSys in
/-- the counters count completions: in every reachable state the insert counter equals its initial
    value plus the number of completed insert-flagged unlocks (and explicit increments), mod 2^29;
    likewise the split counter. -/
theorem counter_is_count (b0 : Body) (hb : b0.locked = false) (s : State) (h : Reach (init b0) s) :
    s.word.vinsert = b0.vinsert + BitVec.ofNat 29 s.nIns ∧
    s.word.vsplit = b0.vsplit + BitVec.ofNat 29 s.nSplit := Yak.Proto.VSys.counter_is_count b0 hb s h

open Yak.Proto.VSys in
/-- two equal stable versions taken at different times prove that no insert or split
    completed in between — under the explicit bound that fewer than 2^29 completions happened
    (the counters wrap; `equal_stable_wrap_witness` shows the bound is tight). -/
theorem equal_stable_no_completion (b0 : Body) (hb : b0.locked = false) (s1 s2 : State)
    (h1 : Reach (init b0) s1) (h12 : Reach s1 s2)
    (hs1 : s1.word.stable = true) (hs2 : s2.word.stable = true) (heq : s1.word = s2.word)
    (hI : s2.nIns - s1.nIns < 2^29) (hS : s2.nSplit - s1.nSplit < 2^29) :
    s2.nIns = s1.nIns ∧ s2.nSplit = s1.nSplit :=
  Yak.Proto.VSys.equal_stable_no_completion b0 hb s1 s2 h1 h12 hs1 hs2 heq hI hS

open Yak.Proto.VSys in
/-- tightness of the bound: exactly 2^29 completions give equal stable versions. -/
theorem equal_stable_wrap_witness (b : Body) :
    b.vinsert + BitVec.ofNat 29 (2^29) = b.vinsert := by
  rw [show BitVec.ofNat 29 (2^29) = 0#29 by decide, BitVec.add_zero]

/-! ### What the trace monitor's acceptance means (`yakmodel vers`, run on every traced schedule)

The monitor classifies each successful compare-exchange the real code performed on a version word.
A transition accepted as `lock`, `unlock` or `flag` did exactly what its class says — so a stale
CAS retry that also reverts another thread's flag cannot be accepted — and one accepted as `flag`
or `same` left the lock bit alone. (Nothing is stated here about the class `inc`.) -/

open Yak.VersCheck in
theorem monitor_lock_step {o n : W} (h : classify o n = some .lock) :
    (decode o).locked = false ∧ decode n = { decode o with locked := true } := by
  obtain ⟨h1, rfl⟩ := classify_sound h
  exact ⟨h1, decode_encode _⟩

open Yak.VersCheck in
theorem monitor_unlock_step {o n : W} (h : classify o n = some .unlock) :
    (decode o).locked = true ∧ decode n = (decode o).unlock := by
  obtain ⟨h1, rfl⟩ := classify_sound h
  exact ⟨h1, decode_encode _⟩

open Yak.VersCheck in
theorem monitor_flag_step {o n : W} (h : classify o n = some .flag) :
    ∃ tf : Bool, decode n = { decode o with root := tf } ∨ decode n = { decode o with border := tf } ∨
      decode n = { decode o with deleted := tf } ∨ decode n = { decode o with inserting := tf } ∨
      decode n = { decode o with splitting := tf } := by
  obtain ⟨tf, rfl⟩ | ⟨tf, rfl⟩ | ⟨tf, rfl⟩ | ⟨tf, rfl⟩ | ⟨tf, rfl⟩ := classify_sound h
  · exact ⟨tf, .inr (.inl (decode_encode _))⟩
  · exact ⟨tf, .inr (.inr (.inl (decode_encode _)))⟩
  · exact ⟨tf, .inr (.inr (.inr (.inl (decode_encode _))))⟩
  · exact ⟨tf, .inl (decode_encode _)⟩
  · exact ⟨tf, .inr (.inr (.inr (.inr (decode_encode _))))⟩

open Yak.VersCheck in
theorem monitor_lock_bit {o n : W} {k : Kind} (h : classify o n = some k) (hk : k = .flag ∨ k = .same) :
    (decode n).locked = (decode o).locked := by
  rcases hk with rfl | rfl
  · obtain ⟨tf, e | e | e | e | e⟩ := monitor_flag_step h <;> rw [e]
  · rw [show n = o from classify_sound h]

/-- non-vacuity: the stale-retry transition of seeded change C09_m1 (deleted set, root lost) is
    rejected, an honest `atomic_set_deleted` is accepted -/
example : Yak.VersCheck.classify 0xc000000120000010#64 0xa000000120000010#64 = none := by decide
example : Yak.VersCheck.classify 0xc000000120000010#64 0xe000000120000010#64 = some .flag := by decide

end Yak.Props.C17
