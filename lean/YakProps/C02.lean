import YakModel.Proofs.TreeProofs
/-!
# C02 — Single-threaded behaviour equals an ordered byte-string map

The model (`YakModel/Tree.lean`) mirrors put / unique-put / get / remove on the layered leaf-chain
structure (leaf splits, new layers, unlink of emptied leaves with either absorb direction, removal
of emptied layers, the kept-and-revived deleted root). The specification is the simplest possible
one: a function `Key → Option Val`. Every theorem quantifies over all keys (arbitrary bytes, any
length), all values, all reachable trees and — for remove — all absorb directions.
-/
namespace Yak.Props.C02
open Yak Yak.Tree

/-- the abstraction: what a point lookup sees -/
def lookup (t : Tree) (k : Key) : Option Val := (get t k).val

theorem inv_empty : Inv Tree.empty ∧ ∀ k, lookup Tree.empty k = none := Yak.Tree.inv_empty

/-- get: OK with the bound value, or WARN_NOT_EXIST. -/
theorem get_refines (t : Tree) (k : Key) (h : Inv t) :
    (get t k).status = (if (lookup t k).isSome then Status.OK else Status.WARN_NOT_EXIST) :=
  Yak.Tree.get_refines t k h

/-- put (upsert): always OK, the tree stays well formed, and it is exactly a map update. -/
theorem put_refines (t : Tree) (k : Key) (v : Val) (h : Inv t) :
    (put t k v false).status = Status.OK ∧ Inv (put t k v false).tree ∧
    ∀ k', lookup (put t k v false).tree k' = if k' = k then some v else lookup t k' :=
  Yak.Tree.put_refines t k v h

/-- unique put: WARN_UNIQUE_RESTRICTION iff the key was present (and then nothing changes);
    otherwise an insert. -/
theorem uput_refines (t : Tree) (k : Key) (v : Val) (h : Inv t) :
    ((lookup t k).isSome = true → (put t k v true).status = Status.WARN_UNIQUE_RESTRICTION ∧ (put t k v true).tree = t) ∧
    (lookup t k = none → (put t k v true).status = Status.OK ∧ Inv (put t k v true).tree ∧
      ∀ k', lookup (put t k v true).tree k' = if k' = k then some v else lookup t k') :=
  Yak.Tree.uput_refines t k v h

/-- remove: OK iff the key was present, OK_NOT_FOUND otherwise; well-formedness is kept and the
    result is exactly a map erase — whatever direction each unlinked leaf's range is absorbed in. -/
theorem remove_refines (t : Tree) (k : Key) (dirs : List Bool) (h : Inv t) :
    (remove t k dirs).status = (if (lookup t k).isSome then Status.OK else Status.OK_NOT_FOUND) ∧
    Inv (remove t k dirs).tree ∧
    ∀ k', lookup (remove t k dirs).tree k' = if k' = k then none else lookup t k' :=
  Yak.Tree.remove_refines t k dirs h

inductive Op
  | put (k : Key) (v : Val)
  | uput (k : Key) (v : Val)
  | get (k : Key)
  | remove (k : Key) (dirs : List Bool)

abbrev Out := Status × Option Val
abbrev Spec := Key → Option Val

def stepModel (t : Tree) : Op → Tree × Out
  | .put k v => let o := Tree.put t k v false; (o.tree, (o.status, none))
  | .uput k v => let o := Tree.put t k v true; (o.tree, (o.status, none))
  | .get k => let o := Tree.get t k; (t, (o.status, o.val))
  | .remove k d => let o := Tree.remove t k d; (o.tree, (o.status, none))

def stepSpec (m : Spec) : Op → Spec × Out
  | .put k v => (fun k' => if k' = k then some v else m k', (Status.OK, none))
  | .uput k v =>
    if (m k).isSome then (m, (Status.WARN_UNIQUE_RESTRICTION, none))
    else (fun k' => if k' = k then some v else m k', (Status.OK, none))
  | .get k => (m, (if (m k).isSome then Status.OK else Status.WARN_NOT_EXIST, m k))
  | .remove k _ => (fun k' => if k' = k then none else m k',
                    (if (m k).isSome then Status.OK else Status.OK_NOT_FOUND, none))

def runModel (t : Tree) : List Op → List Out
  | [] => []
  | op :: ops => (stepModel t op).2 :: runModel (stepModel t op).1 ops

def runSpec (m : Spec) : List Op → List Out
  | [] => []
  | op :: ops => (stepSpec m op).2 :: runSpec (stepSpec m op).1 ops

/-- the map a sequence leaves behind -/
def runSpecState (m : Spec) : List Op → Spec
  | [] => m
  | op :: ops => runSpecState (stepSpec m op).1 ops

/-- one operation: the same output, well-formedness is kept, and the denoted map moves as the
    specification says. -/
theorem step_refines (t : Tree) (h : Inv t) (op : Op) :
    (stepModel t op).2 = (stepSpec (lookup t) op).2 ∧ Inv (stepModel t op).1 ∧
    lookup (stepModel t op).1 = (stepSpec (lookup t) op).1 := by
  cases op with
  | put k v =>
    obtain ⟨h1, h2, h3⟩ := put_refines t k v h
    exact ⟨by simp only [stepModel, stepSpec, h1], h2, funext h3⟩
  | uput k v =>
    obtain ⟨ha, hb⟩ := uput_refines t k v h
    simp only [stepModel, stepSpec]
    cases hl : lookup t k with
    | some w =>
      obtain ⟨h1, h2⟩ := ha (by rw [hl]; rfl)
      rw [h1, h2]
      exact ⟨rfl, h, rfl⟩
    | none =>
      obtain ⟨h1, h2, h3⟩ := hb hl
      rw [h1]
      exact ⟨rfl, h2, funext h3⟩
  | get k => exact ⟨by simp only [stepModel, stepSpec, get_refines t k h]; rfl, h, rfl⟩
  | remove k d =>
    obtain ⟨h1, h2, h3⟩ := remove_refines t k d h
    exact ⟨by simp only [stepModel, stepSpec, h1], h2, funext h3⟩

/-- any operation sequence on any well-formed tree answers exactly like the map it denotes. -/
theorem run_refines_from (t : Tree) (h : Inv t) (ops : List Op) :
    runModel t ops = runSpec (lookup t) ops := by
  induction ops generalizing t with
  | nil => rfl
  | cons op ops ih =>
    obtain ⟨h1, h2, h3⟩ := step_refines t h op
    rw [runModel, runSpec, h1, ih _ h2, h3]

/-- from a fresh storage: every reachable state, every sequence. -/
theorem run_refines (ops : List Op) : runModel Tree.empty ops = runSpec (fun _ => none) ops := by
  have h := run_refines_from Tree.empty inv_empty.1 ops
  have e : lookup Tree.empty = fun _ => none := funext inv_empty.2
  rw [e] at h; exact h

/-- outputs depend only on the denoted map, not on the physical shape (kept deleted root, stale
    fences, version counters). -/
theorem outputs_depend_on_content (t1 t2 : Tree) (h1 : Inv t1) (h2 : Inv t2)
    (heq : ∀ k, lookup t1 k = lookup t2 k) (ops : List Op) : runModel t1 ops = runModel t2 ops := by
  rw [run_refines_from t1 h1, run_refines_from t2 h2, funext heq]

/-- "Removing every key and re-inserting, in any order, behaves the same as on a fresh storage." -/
theorem emptied_behaves_fresh (t : Tree) (h : Inv t) (he : ∀ k, lookup t k = none) (ops : List Op) :
    runModel t ops = runModel Tree.empty ops :=
  outputs_depend_on_content t Tree.empty h inv_empty.1 (fun k => by rw [he k, inv_empty.2 k]) ops

end Yak.Props.C02
