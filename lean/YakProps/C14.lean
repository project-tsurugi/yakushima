import YakModel.Proto.Session
import YakModel.Proofs.SessionProofs
/-!
# C14 — sessions: distinct tokens, capacity, WARN_MAX_SESSIONS, slot reuse, epoch accounting

The property theorems; the invariants and the facts about solo runs they are read off from live in
`YakModel/Proofs/SessionProofs.lean`. Everything is stated over the protocol model
`Yak.Proto.Session`: any number of threads (thread ids are arbitrary naturals), every interleaving
of the single shared-memory accesses of `enter`/`leave`, weak CAS that may fail spuriously, an
epoch thread that bumps the global epoch at any time, and every capacity `N = c.N` (no lower bound
on `N` is needed by any theorem; `N = 1` and `N = 2` instances are exhibited in the examples).

`s.held t` is ghost state: the tokens `enter` has returned to thread `t` and `t` has not yet passed
to `leave` — the *open sessions* of `t` (`open_window` pins this down). A thread may hold several.
-/
namespace Yak.Props.C14
open Yak.Proto.Session

theorem acceptor_is_step (c : Cfg) (s s' : State) (e : Event) :
    step? c s e = some s' ↔ Step c s e s' := step?_iff

theorem reach_is_accepted_trace (c : Cfg) (s : State) :
    Reach c s ↔ ∃ es, exec c (init c) es = some s := reach_iff_exec

/-- `held` is exactly "returned by enter, not yet given to leave": `enterRet t (some i)` adds `i`
    to `held t`, `leaveCall t i` requires `i ∈ held t` and removes it, and no other step of any
    thread changes `held t`. -/
theorem open_window (c : Cfg) (s s' : State) :
    (∀ t i, Step c s (.enterRet t (some i)) s' → s'.held t = i :: s.held t) ∧
    (∀ t i, Step c s (.leaveCall t i) s' → i ∈ s.held t ∧ s'.held t = (s.held t).erase i) ∧
    (∀ e t, Step c s e s' → e.thread? ≠ some t → s'.held t = s.held t) := by
  refine ⟨fun t i h => ?_, fun t i h => ?_, fun e t h ht => (h.frame ht).2⟩
  · cases h; exact upd_same _ _ _
  · cases h with
    | leaveCall _ _ _ hown => exact ⟨hown, upd_same _ _ _⟩

/-- Two open sessions never share a slot: a slot is held by at most one thread, and no thread
    holds the same slot twice. -/
theorem tokens_distinct (c : Cfg) (s : State) (h : Reach c s) :
    (∀ t1 t2 i, i ∈ s.held t1 → i ∈ s.held t2 → t1 = t2) ∧ (∀ t, (s.held t).Nodup) :=
  Yak.Proto.Session.tokens_distinct h

/-- Every token is a slot index `< N` whose `running` flag is set, and the number of sessions held
    by any finite set `ts` of distinct threads is at most `N`. -/
theorem open_le_capacity (c : Cfg) (s : State) (h : Reach c s) :
    (∀ t i, i ∈ s.held t → i < c.N ∧ s.running i = true) ∧
    (∀ ts : List Nat, ts.Nodup → (ts.map (fun t => (s.held t).length)).sum ≤ c.N) := by
  refine ⟨fun t i hi => held_lt_running h hi, fun ts hts => ?_⟩
  rw [← List.length_flatMap]
  exact Yak.Proto.Session.open_le_capacity h ts hts

/-- `s` is reachable and quiescent (no enter/leave in progress in any thread). Thread `t` runs one
    `enter` alone: `es` are its accesses (spurious CAS failures allowed, the epoch thread may
    interleave), followed by the return `enterRet t tok`. Then the call succeeds iff some slot is
    held by nobody, it returns the lowest such slot, and it returns `none` iff all `N` slots are
    held. -/
theorem quiescent_enter_iff_room (c : Cfg) (s : State) (h : Reach c s)
    (hq : ∀ t', s.pc t' = .idle) (t : Nat) (es : List Event) (tok : Option Nat) (s' : State)
    (hsolo : ∀ e ∈ es, e.isEnterStepOf t = true ∨ e = .epochInc)
    (hrun : exec c s (es ++ [.enterRet t tok]) = some s') :
    ((∃ i, tok = some i) ↔ ∃ i, i < c.N ∧ ∀ t', i ∉ s.held t') ∧
    (tok = none ↔ ∀ i, i < c.N → ∃ t', i ∈ s.held t') ∧
    (∀ i, tok = some i → i < c.N ∧ (∀ t', i ∉ s.held t') ∧ (∀ j, j < i → ∃ t', j ∈ s.held t') ∧
      s'.held t = i :: s.held t ∧ s'.running i = true) ∧
    (∀ t', s'.pc t' = .idle) := by
  -- `solo_enter_result` speaks of the flags `running`; at quiescence a flag is set iff some
  -- thread holds the slot, which turns it into the statement about `held`
  obtain ⟨r3, r⟩ := solo_enter_result hq hsolo hrun
  have hheld := quiescent_running_iff_held h hq
  have hfree : ∀ i, s.running i = false → ∀ t', i ∉ s.held t' := fun i hf t' ht' =>
    Bool.eq_false_iff.mp hf ((hheld i).mpr ⟨t', ht'⟩)
  cases tok with
  | none =>
    obtain ⟨hall, -⟩ := r
    refine ⟨⟨fun ⟨i, hi⟩ => (by cases hi), fun ⟨i, hi, hno⟩ => ?_⟩,
      ⟨fun _ i hi => (hheld i).mp (hall i hi), fun _ => rfl⟩, fun i hi => (by cases hi), r3⟩
    obtain ⟨t', ht'⟩ := (hheld i).mp (hall i hi)
    exact absurd ht' (hno t')
  | some k =>
    obtain ⟨hk1, hk2, hk3, hk4, hk5⟩ := r
    refine ⟨⟨fun _ => ⟨k, hk1, hfree k hk2⟩, fun _ => ⟨k, rfl⟩⟩,
      ⟨fun hk => (by cases hk), fun hall => ?_⟩, ?_, r3⟩
    · obtain ⟨t', ht'⟩ := hall k hk1
      exact absurd ht' (hfree k hk2 t')
    · rintro _ ⟨⟩
      exact ⟨hk1, hfree k hk2, fun j hj => (hheld j).mp (hk3 j hj), hk5 ▸ upd_same _ _ _,
        hk4 ▸ upd_same _ _ _⟩

/-- the same in terms of the *number* of open sessions: with `ts` a duplicate-free list of threads
    containing every thread that holds a session, the quiescent `enter` succeeds iff fewer than `N`
    sessions are open. -/
theorem quiescent_enter_iff_count (c : Cfg) (s : State) (h : Reach c s)
    (hq : ∀ t', s.pc t' = .idle) (t : Nat) (es : List Event) (tok : Option Nat) (s' : State)
    (hsolo : ∀ e ∈ es, e.isEnterStepOf t = true ∨ e = .epochInc)
    (hrun : exec c s (es ++ [.enterRet t tok]) = some s')
    (ts : List Nat) (hts : ts.Nodup) (hcover : ∀ t', t' ∉ ts → s.held t' = []) :
    (∃ i, tok = some i) ↔ (ts.map (fun t => (s.held t).length)).sum < c.N := by
  rw [← List.length_flatMap, open_count_lt_iff_free h ts hts hcover]
  exact (quiescent_enter_iff_room c s h hq t es tok s' hsolo hrun).1

/-- such a solo run exists from every state in which `t` is idle: left alone, `enter` returns. -/
theorem quiescent_enter_returns (c : Cfg) (s : State) (t : Nat) (hidle : s.pc t = .idle) :
    ∃ es tok s', (∀ e ∈ es, e.isEnterStepOf t = true) ∧
      exec c s (es ++ [.enterRet t tok]) = some s' := solo_enter_exists c s t hidle

/-- In any accepted trace (from the initial state, or from any state `s0` in which `t` is idle)
    that ends with `t`'s `enter` returning `none`: for every slot `j < N` the trace contains a step
    `e` of `t` — a load of `running[j]` that returned `true`, or a failed CAS on `running[j]`
    (whose refresh of `expected` therefore read `true`) — taken in a state `s1` with
    `running[j] = true`, and `t` did not return from any `enter` between `e` and the end: `e`
    belongs to the very call that gives up. -/
theorem max_sessions_only_if_each_slot_seen_occupied (c : Cfg) (s0 : State) (t : Nat)
    (h0 : s0.pc t = .idle) (es : List Event) (s' : State)
    (hrun : exec c s0 (es ++ [.enterRet t none]) = some s') :
    ∀ j, j < c.N →
      ∃ es1 e es2 s1, es = es1 ++ e :: es2 ∧ exec c s0 es1 = some s1 ∧ s1.running j = true ∧
        (e = .ldRunning t j true ∨ e = .casRunning t j false) ∧
        ∀ e' ∈ es2, ∀ k, e' ≠ .enterRet t k :=
  max_sessions_observed h0 hrun

/-- `init c` satisfies the hypothesis `h0` for every thread. -/
example (c : Cfg) (t : Nat) : (init c).pc t = .idle := rfl

/-- From a reachable quiescent state in which `t` holds token `i`: `leave(i)` runs to completion
    (its four events are accepted), afterwards `running[i] = false`, nobody holds `i`, the state is
    quiescent, and every subsequent solo `enter` by any thread `t2` succeeds with a slot `k ≤ i` —
    exactly `i` when all lower slots are occupied. -/
theorem slot_reusable_after_leave (c : Cfg) (s : State) (h : Reach c s)
    (hq : ∀ t', s.pc t' = .idle) (t i : Nat) (hi : i ∈ s.held t) :
    ∃ s2, exec c s [.leaveCall t i, .stBegin t i 0, .stRunning t i false, .leaveRet t] = some s2 ∧
      s2.running i = false ∧ (∀ t', i ∉ s2.held t') ∧ (∀ t', s2.pc t' = .idle) ∧
      ∀ (t2 : Nat) (es : List Event) (tok : Option Nat) (s3 : State),
        (∀ e ∈ es, e.isEnterStepOf t2 = true ∨ e = .epochInc) →
        exec c s2 (es ++ [.enterRet t2 tok]) = some s3 →
        ∃ k, tok = some k ∧ k ≤ i ∧ ((∀ j, j < i → s.running j = true) → k = i) := by
  obtain ⟨s2, h1, h2, h4, h5⟩ := leave_frees_slot h hq hi
  have hfree : s2.running i = false := h2 ▸ upd_same _ _ _
  refine ⟨s2, h1, hfree, h5, h4, fun t2 es tok s3 hsolo hrun => ?_⟩
  obtain ⟨-, r⟩ := solo_enter_result h4 hsolo hrun
  cases tok with
  | none =>
    -- `enter` gives up only if it found every slot occupied, but slot `i` is free
    exact absurd (r.1 i (held_lt_running h hi).1) (Bool.eq_false_iff.mp hfree)
  | some k =>
    -- `k` is the lowest free slot of `s2`, which differs from `s` in slot `i` only
    obtain ⟨-, hk2, hk3, -⟩ := r
    have hki : k ≤ i := Nat.le_of_not_lt fun hlt => Bool.eq_false_iff.mp hfree (hk3 i hlt)
    refine ⟨k, rfl, hki, fun hlow => Nat.le_antisymm hki (Nat.le_of_not_lt fun hlt => ?_)⟩
    rw [h2, upd_other _ _ _ _ (by omega), hlow k hlt] at hk2
    cases hk2

/-- under concurrency: the store `running[i] := false` of `leave` frees the slot at that instant,
    and no thread holds or is acquiring/releasing slot `i` any more. -/
theorem leave_store_frees (c : Cfg) (s s' : State) (h : Reach c s) (t i : Nat)
    (hs : Step c s (.stRunning t i false) s') :
    s'.running i = false ∧ ∀ t', i ∉ claims s' t' := by
  have hf : s'.running i = false := by cases hs; exact upd_same _ _ _
  exact ⟨hf, fun t' ht' => Bool.eq_false_iff.mp hf ((inv_step (inv_reach h) hs).occ t' i ht').1⟩

/-- With the global epoch initialised to a value ≥ 1 (it is 1 in a fresh process and never
    decreases), every open session — from `enterRet` to `leaveCall`, see `open_window` — has
    `begin[slot] ≠ 0`, so the epoch thread's scan (`check_epoch != 0`) counts it; moreover the
    value is an epoch that the global epoch has reached, and `running[slot]` is set. -/
theorem counted_from_return_to_leave (c : Cfg) (h0 : 1 ≤ c.epoch0) (s : State) (h : Reach c s)
    (t i : Nat) (hi : i ∈ s.held t) :
    s.begin i ≠ 0 ∧ s.begin i ≤ s.epoch ∧ s.running i = true := by
  have := (binv_reach h0 h).begun t i (Or.inr hi)
  exact ⟨by omega, this.2, (held_lt_running h hi).2⟩

theorem epoch_ge_one (c : Cfg) (h0 : 1 ≤ c.epoch0) (s : State) (h : Reach c s) : 1 ≤ s.epoch :=
  (binv_reach h0 h).epoch_pos

/-- N = 2, threads 1 and 2 race for slot 0: both load `false`, 1 wins the CAS, 2's CAS fails and
    refreshes `expected = true`, so 2 moves on and takes slot 1. -/
def raceTrace : List Event :=
  [.ldRunning 1 0 false, .ldRunning 2 0 false, .casRunning 1 0 true, .casRunning 2 0 false,
   .ldRunning 2 1 false, .ldEpoch 1 1, .epochInc, .casRunning 2 1 true, .ldEpoch 2 2,
   .stBegin 2 1 2, .stBegin 1 0 1, .enterRet 2 (some 1), .enterRet 1 (some 0)]

example : (exec ⟨2, 1⟩ (init ⟨2, 1⟩) raceTrace).map (fun s => s.view ⟨2, 1⟩ 3) =
    some ([(true, 1), (true, 2)], 2, [(.idle, []), (.idle, [0]), (.idle, [1])]) := by decide

/-- N = 1, the loser of the race finds the only slot occupied and returns WARN_MAX_SESSIONS; later
    the winner leaves and the loser's retry gets slot 0 again (reuse). -/
def fullTrace : List Event :=
  [.ldRunning 1 0 false, .ldRunning 2 0 false, .casRunning 1 0 true, .casRunning 2 0 false,
   .enterRet 2 none, .ldEpoch 1 1, .stBegin 1 0 1, .enterRet 1 (some 0),
   .ldRunning 2 0 true, .enterRet 2 none,
   .leaveCall 1 0, .stBegin 1 0 0, .stRunning 1 0 false, .leaveRet 1,
   .ldRunning 2 0 false, .casRunning 2 0 false, .casRunning 2 0 true, .epochInc, .ldEpoch 2 2,
   .stBegin 2 0 2, .enterRet 2 (some 0)]

example : (exec ⟨1, 1⟩ (init ⟨1, 1⟩) fullTrace).map (fun s => s.view ⟨1, 1⟩ 3) =
    some ([(true, 2)], 2, [(.idle, []), (.idle, []), (.idle, [0])]) := by decide

/-- the acceptor rejects: a second successful CAS on an occupied slot, and a load that reads `false`
    from an occupied slot -/
example : exec ⟨1, 1⟩ (init ⟨1, 1⟩)
    [.ldRunning 1 0 false, .ldRunning 2 0 false, .casRunning 1 0 true, .casRunning 2 0 true] = none := by
  decide
example : (exec ⟨1, 1⟩ (init ⟨1, 1⟩)
    [.ldRunning 1 0 false, .casRunning 1 0 true, .ldEpoch 1 1, .stBegin 1 0 1, .enterRet 1 (some 0),
     .ldRunning 2 0 false]).isSome = false := by decide

/-- a reachable, quiescent state with an open session (the hypotheses of `quiescent_enter_iff_room`,
    `slot_reusable_after_leave` and `counted_from_return_to_leave`), N = 2 -/
example : ∃ s, Reach ⟨2, 1⟩ s ∧ (∀ t, s.pc t = .idle) ∧ 0 ∈ s.held 1 := by
  refine ⟨_, reach_exec (es := [.ldRunning 1 0 false, .casRunning 1 0 true, .ldEpoch 1 1,
    .stBegin 1 0 1, .enterRet 1 (some 0)]) .init rfl, ?_, ?_⟩
  · intro t
    by_cases h : t = 1
    · subst h; rfl
    · simp [upd, h, init]
  · simp [upd]

end Yak.Props.C14
