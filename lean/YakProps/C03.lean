import YakModel.Proofs.ScanProofs
/-!
# C03 — Range scan returns exactly the keys of the requested interval, in order

`Tree.scan` mirrors `scan`/`scan_border` (argument validation, truncated initial descent,
relative-left/absolute-right endpoint translation through layers, `max_size`, right-to-left).
`Tree.scanSpec` is the specification: filter the in-order content by the interval, truncate.
-/
namespace Yak.Props.C03
open Yak Yak.Tree

/-- the documented validity of a range: a right INF is always fine; a left INF is fine unless the
    right end is EXCLUSIVE on the empty key; otherwise left < right, or equal keys with both
    ends INCLUSIVE. -/
def DocumentedValid (lk : Key) (le : EP) (rk : Key) (re : EP) : Prop :=
  re = .inf ∨ (re ≠ .inf ∧ le = .inf ∧ ¬(re = .excl ∧ rk = [])) ∨
  (re ≠ .inf ∧ le ≠ .inf ∧ (lexLt lk rk = true ∨ (lk = rk ∧ le = .incl ∧ re = .incl)))

/-- exactly the documented invalid ranges are rejected -/
theorem range_check_iff (lk : Key) (le : EP) (rk : Key) (re : EP) :
    checkEmptyRange lk le rk re = true ↔ DocumentedValid lk le rk re := by
  unfold checkEmptyRange DocumentedValid
  -- An INF right end is always valid; with a finite right end an INF left end is valid unless the
  -- right end excludes the empty key. That leaves the four pairs of finite ends, decided by how
  -- `lk` and `rk` compare: `lk < rk` valid, `lk = rk` valid for `[lk, lk]` only, `lk > rk` never.
  cases re <;> cases le <;> simp
  all_goals
    rcases Yak.lexLt_total lk rk with h | h | h
    · simp [h]
    · subst h; simp [Yak.lexLt_irrefl]
    · have h2 : lexLt lk rk = false := Yak.lexLt_asymm _ _ h
      have hne : lk ≠ rk := by
        intro e; subst e; simp [Yak.lexLt_irrefl] at h
      simp [h, h2, hne]

theorem scan_status_iff (cfg : Cfg) (t : Tree) (lk : Key) (le : EP) (rk : Key) (re : EP) (max : Nat) (r2l : Bool) :
    (scan cfg t lk le rk re max r2l).status = Status.ERR_BAD_USAGE ↔ scanArgsOk lk le rk re max r2l = false := by
  unfold scan
  -- bad arguments return `ERR_BAD_USAGE` at once; every later exit of `scan` has another status
  split
  · simp_all
  · rename_i h
    have h' : scanArgsOk lk le rk re max r2l = true := by simpa using h
    simp only [h', Bool.true_eq_false, iff_false]
    split
    · simp
    · split <;> (split <;> simp)

/-- `ERR_BAD_USAGE` is returned for exactly the documented argument combinations: an invalid range,
    or right-to-left without `r_end = INF` and `max_size = 1`. -/
theorem scan_bad_usage_iff (cfg : Cfg) (t : Tree) (lk : Key) (le : EP) (rk : Key) (re : EP) (max : Nat) (r2l : Bool) :
    (scan cfg t lk le rk re max r2l).status = Status.ERR_BAD_USAGE ↔
      ¬ (DocumentedValid lk le rk re ∧ (r2l = true → re = .inf ∧ max = 1)) := by
  rw [scan_status_iff, ← range_check_iff]
  unfold scanArgsOk
  -- `scanArgsOk` is the range check and, for right-to-left only, `re = INF ∧ max = 1`
  cases checkEmptyRange lk le rk re <;> cases r2l <;> simp

/-- no border node has the maximal tuple `(0xFF×8, link)` as its lower fence: what right-to-left
    scans need beyond `Inv` (why: head of `ScanR2L.lean`; that it is needed:
    `scan_spec_r2l_needs_fence`; that the operations keep it: `no_max_fence_reachable`). -/
def NoMaxFence (t : Tree) : Prop := ∀ L ∈ t, ∀ l ∈ L.leaves, l.fence ≠ some KT.max

/-- a quiescent scan returns precisely the entries of the interval in ascending order, each with
    its current value, truncated to the first `max` entries (right-to-left with `max = 1`: the
    greatest one). `scanSpec` is the filter of the in-order content (C08: strictly ascending, equal
    to what point lookups see).
    Right-to-left needs `NoMaxFence`; forward scans need nothing beyond `Inv`. -/
theorem scan_spec (t : Tree) (lk : Key) (le : EP) (rk : Key) (re : EP) (max : Nat) (r2l : Bool)
    (h : Inv t) (ha : scanArgsOk lk le rk re max r2l = true) (hm : r2l = true → NoMaxFence t) :
    (scan cfgFixed t lk le rk re max r2l).status = Status.OK ∧
    (scan cfgFixed t lk le rk re max r2l).tuples = scanSpec t lk le rk re max r2l :=
  Yak.Tree.scan_spec t lk le rk re max r2l h ha hm

/-- `NoMaxFence` holds for a fresh storage and is preserved by `put` and `remove`, so every storage
    reached by operations satisfies the hypothesis of `scan_spec`. -/
theorem no_max_fence_reachable :
    NoMaxFence Tree.empty ∧
    (∀ (t : Tree) (k : Key) (v : Val) (u : Bool), Inv t → NoMaxFence t → NoMaxFence (put t k v u).tree) ∧
    (∀ (t : Tree) (k : Key) (dirs : List Bool), NoMaxFence t → NoMaxFence (remove t k dirs).tree) :=
  ⟨Yak.Tree.noMaxFence_empty, Yak.Tree.noMaxFence_put, Yak.Tree.noMaxFence_remove⟩

/-- the forward case on its own (no extra hypothesis). -/
theorem scan_spec_forward (t : Tree) (lk : Key) (le : EP) (rk : Key) (re : EP) (max : Nat)
    (h : Inv t) (ha : scanArgsOk lk le rk re max false = true) :
    (scan cfgFixed t lk le rk re max false).status = Status.OK ∧
    (scan cfgFixed t lk le rk re max false).tuples = scanSpec t lk le rk re max false :=
  Yak.Tree.scan_spec t lk le rk re max false h ha (fun e => by cases e)

/-- right-to-left under `Inv` alone is false: a well-formed tree whose second leaf has the maximal
    tuple as fence. -/
theorem scan_spec_r2l_needs_fence :
    ∃ t : Tree, Inv t ∧ scanArgsOk [] .inf [] .inf 1 true = true ∧
      (scan cfgFixed t [] .inf [] .inf 1 true).tuples ≠ scanSpec t [] .inf [] .inf 1 true :=
  Yak.Tree.r2l_max_fence_counterexample

/-- an INF endpoint ignores the key passed with it. -/
theorem scan_inf_ignores_key (t : Tree) (lk lk' rk rk' : Key) (le re : EP) (max : Nat) (r2l : Bool) (h : Inv t) :
    (le = .inf → (scan cfgFixed t lk le rk re max r2l).tuples = (scan cfgFixed t lk' le rk re max r2l).tuples) ∧
    (re = .inf → (scan cfgFixed t lk le rk re max r2l).tuples = (scan cfgFixed t lk le rk' re max r2l).tuples) :=
  Yak.Tree.scan_inf_ignores_key t lk lk' rk rk' le re max r2l h

/-- the unrepaired scan does not ignore `l_key` with a left INF: a concrete two-leaf tree. -/
theorem D5_counterexample :
    ∃ (t : Tree) (lk : Key), Inv t ∧
      (scan cfgD5 t lk .inf [] .inf 0 false).tuples ≠ (scan cfgD5 t [] .inf [] .inf 0 false).tuples :=
  Yak.Tree.D5_counterexample

end Yak.Props.C03
