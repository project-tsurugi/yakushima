import YakModel.Proofs.TreeProofs
import YakProps.C02
import YakModel.Proofs.RouteProofs
import YakModel.Proofs.BTreeOpsProofs
/-!
# C08 — Tree stays coherent (sequential quantifier)

`Inv` (`YakModel/TreeInv.lean`) is the well-formedness of the layered leaf chains: per leaf the
entries are strictly increasing well-formed tuples inside the leaf's fence interval, fences are
strictly increasing, link entries and layers correspond one to one, only the emptied root of layer
0 may be empty or flagged deleted. It is decidable (`checkInv`) and the same predicate is evaluated
on the implementation's dumps by the correspondence checker (`Shape.checkLayer`, `checkLinks`).
-/
namespace Yak.Props.C08
open Yak Yak.Tree Yak.Props.C02

/-- the model's state after running `ops` from `t` -/
def runTree (t : Tree) : List C02.Op → Tree
  | [] => t
  | op :: ops => runTree (C02.stepModel t op).1 ops

/-- one step of the model keeps `Inv` and acts on the lookup function like the specification. -/
theorem step_inv (t : Tree) (h : Inv t) (op : C02.Op) :
    Inv (C02.stepModel t op).1 ∧
    ∀ k, C02.lookup (C02.stepModel t op).1 k = (C02.stepSpec (C02.lookup t) op).1 k :=
  ⟨(C02.step_refines t h op).2.1, congrFun (C02.step_refines t h op).2.2⟩

theorem inv_run (t : Tree) (h : Inv t) (ops : List C02.Op) : Inv (runTree t ops) := by
  induction ops generalizing t with
  | nil => exact h
  | cons op ops ih => exact ih _ (step_inv t h op).1

/-- the lookup function of the reached state is the map the specification computes. -/
theorem lookup_run (t : Tree) (h : Inv t) (ops : List C02.Op) (k : Key) :
    C02.lookup (runTree t ops) k = C02.runSpecState (C02.lookup t) ops k := by
  induction ops generalizing t with
  | nil => rfl
  | cons op ops ih =>
    obtain ⟨h1, h2⟩ := step_inv t h op
    simp only [runTree, C02.runSpecState]
    rw [ih _ h1, funext h2]

/-- every state reachable from a fresh storage by any operation sequence is well formed. -/
theorem inv_reachable (ops : List C02.Op) : Inv (runTree Tree.empty ops) :=
  inv_run Tree.empty C02.inv_empty.1 ops

/-- `checkInv` decides `Inv`. -/
theorem checkInv_iff (t : Tree) : checkInv t = true ↔ Inv t := Yak.Tree.checkInv_iff t

/-- keys found by point lookup are exactly the keys of the in-order content (what a full forward
    scan lists), with the same values, and the content is strictly ascending. -/
theorem lookup_iff_content (t : Tree) (h : Inv t) (k : Key) (v : Val) :
    C02.lookup t k = some v ↔ (k, v) ∈ content t := Yak.Tree.lookup_iff_content t h k v

theorem content_sorted (t : Tree) (h : Inv t) :
    (content t).Pairwise (fun a b => lexLt a.1 b.1 = true) := Yak.Tree.content_sorted t h

/-- the in-order content of a reachable state is the set of keys whose last completed operation
    was a put, with the value put (the specification's state after `ops`). -/
theorem content_is_last_put (ops : List C02.Op) (k : Key) (v : Val) :
    (k, v) ∈ content (runTree Tree.empty ops) ↔
      (C02.runSpecState (fun _ => none) ops) k = some v := by
  rw [← lookup_iff_content _ (inv_reachable ops), lookup_run Tree.empty C02.inv_empty.1 ops k,
    funext C02.inv_empty.2]

/-! ### Interior nodes: descending by `get_child_of` = the fence rule of the proof model

The proof model above has no interior nodes: a layer is a chain of leaves with lower fences and a
lookup goes to the last leaf whose fence is `≤` the key. The implementation descends through
interior nodes (`find_border` / `interior_node::get_child_of`, modelled by `routeIdx`). The
correspondence checker compares the implementation's structure dump (a `Shape.BTree`, interior
nodes included) with the model through `chainOf` and evaluates `checkLayer` on it after every
mutation. These theorems close the gap between the two views: on every dump that passes
`checkLayer` — separators strictly increasing, one more child than separators, fences of the
flattened chain strictly increasing — the interior descent arrives at exactly the leaf the fence
rule (and the model's own `Tree.route`) selects. -/

theorem interior_descent_matches_fences (pfx : List UInt8) (t : Yak.Shape.BTree) (k : KT)
    (h : Yak.Shape.checkLayer pfx t = true) (hk : k.WF) :
    Yak.Route.descend t k =
      (Yak.Route.byFence (Yak.Shape.chainOf t none) k).map Yak.Route.leafOut :=
  Yak.Route.checkLayer_routes pfx t k h hk

theorem interior_descent_matches_model_route (pfx : List UInt8) (t : Yak.Shape.BTree)
    (ls : List Tree.Leaf) (k : KT) (h : Yak.Shape.checkLayer pfx t = true)
    (hf : ls.map (·.fence) = (Yak.Shape.chainOf t none).map (·.fence)) (hk : k.WF) :
    Yak.Route.descend t k = ((Yak.Shape.chainOf t none)[Tree.route k ls]?).map Yak.Route.leafOut :=
  Yak.Route.checkLayer_routes_model pfx t ls k h hf hk

/-- the descent never falls off a well-formed dump. -/
theorem interior_descent_total (pfx : List UInt8) (t : Yak.Shape.BTree) (k : KT)
    (h : Yak.Shape.checkLayer pfx t = true) (hk : k.WF) : (Yak.Route.descend t k).isSome = true :=
  Yak.Route.checkLayer_descend_isSome pfx t k h hk

/-! ### Structural evolution with interior nodes (`BTreeOps`)

`BTreeOps.insertB` / `removeB` mirror, at the level of shape, `insert_lv` / `border_split` /
`interior_node::insert` / `interior_split` / new root creation and `border_node::delete_of` /
`interior_node::delete_of` (unlink with the separator rule per child position, collapse). The
correspondence checker evaluates them on every pair of consecutive dumps of the implementation
(difference class `shape`, one of the classes of DESIGN.md §1.1: the new dump must have exactly the
shape the model computes from the previous one). These theorems say that this B+-tree-level model refines the interior-free chain
model used by the proofs above, and preserves the checked well-formedness. -/

open Yak.Shape Yak.Route Yak.BTreeOps in
/-- inserting an absent tuple into a checked tree changes the flattened chain exactly like the
    chain model: the owning leaf (by the fence rule) receives it in order; a full leaf (15) becomes
    two leaves, the left keeps its fence and 8 or 9 entries, the right's fence is its first tuple. -/
theorem insert_refines_chain (pfx : List UInt8) (t : BTree) (e : DEnt)
    (h : checkLayer pfx t = true) (hk : e.kt.WF)
    (habs : ∀ l ∈ chainOf t none, ∀ x ∈ l.ents, x.kt ≠ e.kt) :
    ∃ A l B, chainOf t none = A ++ l :: B ∧ byFence (chainOf t none) e.kt = some l ∧
      (∀ x ∈ B, fenceLe x.fence e.kt = false) ∧
      (∃ a b, l.ents = a ++ b ∧
        insAt l.ents (rankIfInsert e.kt (l.ents.map (·.kt))) e = a ++ e :: b ∧
        (∀ x ∈ a, KT.lt x.kt e.kt = true) ∧ (∀ x ∈ b, KT.lt e.kt x.kt = true)) ∧
      (l.ents.length ≠ 15 → chainOf (insertB t e) none =
        A ++ ⟨l.fence, l.v, insAt l.ents (rankIfInsert e.kt (l.ents.map (·.kt))) e⟩ :: B) ∧
      (l.ents.length = 15 → ∃ L R sep, chainOf (insertB t e) none =
          A ++ ⟨l.fence, l.v, L⟩ :: ⟨some sep, l.v, R⟩ :: B ∧
        L ++ R = insAt l.ents (rankIfInsert e.kt (l.ents.map (·.kt))) e ∧
        (L.length = 8 ∨ L.length = 9) ∧ R.head?.map (·.kt) = some sep) := by
  obtain ⟨hok, hord⟩ := chainOrd_of_checkLayer pfx t h
  obtain ⟨A, l, B, hch, hge, hB, _, hnew, _⟩ := insertB_spec t e hok hord hk habs
  rw [hch] at hord
  obtain ⟨hby, hBf⟩ := owner_byFence hord hk hge hB
  have hl := hord.leaf l (by simp)
  obtain ⟨a, b, h0, ha, hb, hins, hne, hfull⟩ := insBorder_spec l.v l.ents e hk
    (fun x hx => (hl.ents x hx).1) hl.sorted (fun x hx => habs l (by rw [hch]; simp) x hx)
  refine ⟨A, l, B, hch, by rw [hch]; exact hby, hBf, ⟨a, b, h0, hins, ?_, ?_⟩, ?_, ?_⟩
  · intro x hx
    rw [KT.lt_eq_ltSpec x.kt e.kt (hl.ents x (by rw [h0]; simp [hx])).1 hk]; exact ha x hx
  · intro x hx
    rw [KT.lt_eq_ltSpec e.kt x.kt hk (hl.ents x (by rw [h0]; simp [hx])).1]; exact hb x hx
  · intro h15
    rw [hnew, hins]; simp [leafIns, hne h15, InsRes.chain, chainOf]
  · intro h15
    obtain ⟨L, r, R, _, hLR, hLl, hres⟩ := hfull h15
    refine ⟨L, r :: R, r.kt, ?_, by rw [hLR, hins], hLl, rfl⟩
    rw [hnew]; simp [leafIns, hres, InsRes.chain, chainOf]

open Yak.Shape Yak.Route Yak.BTreeOps in
/-- removing a tuple: the owning leaf loses it; an emptied leaf that is not the only one disappears,
    and its key range goes to the right neighbour iff it was child 0 of its parent (the only case
    in which a fence moves), to the left neighbour otherwise. -/
theorem remove_refines_chain (pfx : List UInt8) (t : BTree) (kt : KT)
    (h : checkLayer pfx t = true) (hk : kt.WF) :
    ∃ A l B, chainOf t none = A ++ l :: B ∧ byFence (chainOf t none) kt = some l ∧
      (∀ x ∈ B, fenceLe x.fence kt = false) ∧
      (¬ ((∃ x ∈ l.ents, x.kt = kt) ∧ l.ents.length = 1 ∧ (A ≠ [] ∨ B ≠ [])) →
        chainOf (removeB t kt) none =
          A ++ ⟨l.fence, l.v, l.ents.filter (fun x => decide (x.kt ≠ kt))⟩ :: B) ∧
      ((∃ x ∈ l.ents, x.kt = kt) → l.ents.length = 1 → (A ≠ [] ∨ B ≠ []) →
        (leafIdx t kt = some 0 →
          B ≠ [] ∧ chainOf (removeB t kt) none = A ++ setHeadFence l.fence B) ∧
        (leafIdx t kt ≠ some 0 → chainOf (removeB t kt) none = A ++ B)) := by
  obtain ⟨hok, hord⟩ := chainOrd_of_checkLayer pfx t h
  obtain ⟨A, l, B, hch, hge, hB, hfirst, _, hnew, _⟩ := removeB_spec t kt hok hord hk
  rw [hch] at hord
  obtain ⟨hby, hBf⟩ := owner_byFence hord hk hge hB
  have hl := hord.leaf l (by simp)
  have hw : ∀ x ∈ l.ents, x.kt.WF := fun x hx => (hl.ents x hx).1
  have hany := any_delMatch_iff kt hk l.ents hw
  refine ⟨A, l, B, hch, by rw [hch]; exact hby, hBf, ?_, ?_⟩
  · intro hc
    have : chainOf (removeB t kt) none = A ++ leafDel l kt :: B := by
      rw [hnew]
      by_cases hAB : A ≠ [] ∨ B ≠ []
      · have hne : ¬ Empties l.ents kt := fun h => hc ⟨hany.mp h.1, h.2, hAB⟩
        rw [if_pos hAB, remChain, if_neg hne]
      · rw [if_neg hAB]
        simp only [not_or, ne_eq, Decidable.not_not] at hAB
        rw [hAB.1, hAB.2]; rfl
    rw [this, leafDel, delEnt_eq_filter kt hk l.ents hw hl.sorted]
  · intro hp h1 hAB
    have hemp : Empties l.ents kt := ⟨hany.mpr hp, h1⟩
    rw [hnew, if_pos hAB, remChain, if_pos hemp]
    exact ⟨fun h0 => ⟨hfirst h0, by rw [if_pos h0]⟩, fun h0 => by rw [if_neg h0]⟩

open Yak.Shape Yak.Route Yak.BTreeOps in
/-- both operations keep the interior nodes well formed and the fences strictly increasing. -/
theorem structure_ops_keep_check (pfx : List UInt8) (t : BTree) (h : checkLayer pfx t = true) :
    (∀ e : DEnt, e.kt.WF → (∀ l ∈ chainOf t none, ∀ x ∈ l.ents, x.kt ≠ e.kt) →
      checkInteriors (insertB t e) = true ∧ fencesSorted (chainOf (insertB t e) none)) ∧
    (∀ kt : KT, kt.WF →
      checkInteriors (removeB t kt) = true ∧ fencesSorted (chainOf (removeB t kt) none)) :=
  ⟨fun e hk habs => insertB_keeps_check_checked pfx t e h hk habs,
   fun kt hk => removeB_keeps_check_checked pfx t kt h hk⟩

end Yak.Props.C08
