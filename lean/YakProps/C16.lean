import YakModel.Proto.Lifecycle
import YakModel.Proofs.LifecycleProofs
/-!
# C16 — init()/fin() can be repeated; destroy() leaves an empty, usable system

The lemmas live in `YakModel/Proofs/LifecycleProofs.lean`; the theorems are stated over the
model `Yak.Proto.Lifecycle`. `cfgFixed n` is the repaired code (the stop flags are reset when the
threads are started), `cfgD4 n` the code before the repair; `n` is the number of session slots and
is arbitrary. "Reachable" = reachable from process start (`boot`) by *any* sequence of events, so
every statement holds after any number of complete cycles with arbitrary events inside them; the
ghost counter `cycles` counts completed init()…fin() cycles and the `*_reachable` theorems show
that every cycle index actually occurs.
-/
namespace Yak.Props.C16
open Yak.Proto.Lifecycle

theorem reach_is_accepted_trace (c : Cfg) (s : State) :
    Reach c s ↔ ∃ es, exec c (boot c) es = some s :=
  ⟨exec_of_reach, fun ⟨es, h⟩ => reach_exec es Reach.boot h⟩

/-- In any reachable state in which the system is down (before the first init() or after any
    fin()), `init` is enabled and yields *exactly* the state the very first init() of the process
    produced (`firstUp`: no storages, all slots free, both threads running, both stop flags clear,
    nothing retired) — up to the value of the epoch, which keeps counting, and the ghost cycle
    counter. -/
theorem cycle_like_first (n : Nat) (s : State) (h : Reach (cfgFixed n) s) (hdown : s.up = false) :
    step? (cfgFixed n) s .init =
      some { firstUp (cfgFixed n) with epoch := s.epoch, cycles := s.cycles } :=
  init_from_down rfl (linv_reach rfl h) hdown

theorem firstUp_spec (n : Nat) :
    step? (cfgFixed n) (boot (cfgFixed n)) .init = some (firstUp (cfgFixed n)) ∧
    (firstUp (cfgFixed n)).storages = [] ∧
    (firstUp (cfgFixed n)).slots = List.replicate n (false, 0) ∧
    (firstUp (cfgFixed n)).epochThread = .running ∧ (firstUp (cfgFixed n)).gcThread = .running ∧
    (firstUp (cfgFixed n)).epochEnd = false ∧ (firstUp (cfgFixed n)).gcEnd = false ∧
    (firstUp (cfgFixed n)).retired = 0 ∧ (firstUp (cfgFixed n)).up = true :=
  ⟨first_init _, rfl, rfl, rfl, rfl, rfl, rfl, rfl, rfl⟩

/-- non-vacuity, "any number of repetitions": for every `k` a down state with exactly `k`
    completed cycles is reachable -/
theorem down_reachable (n k : Nat) :
    ∃ s, Reach (cfgFixed n) s ∧ s.up = false ∧ s.cycles = k := by
  induction k with
  | zero => exact ⟨boot _, Reach.boot, rfl, rfl⟩
  | succ k ih =>
    obtain ⟨s, hr, hd, hc⟩ := ih
    obtain ⟨s', h1, h2, h3⟩ :=
      empty_cycle_from_down (c := cfgFixed n) rfl (linv_reach rfl hr) hd
    exact ⟨s', reach_exec _ hr h1, h2, by rw [h3, hc]⟩

/-- … and so is a live state in cycle `k`. -/
theorem live_reachable (n k : Nat) :
    ∃ s, Reach (cfgFixed n) s ∧ s.up = true ∧ s.finishing = false ∧ s.cycles = k := by
  obtain ⟨s, hr, hd, hc⟩ := down_reachable n k
  exact ⟨_, Reach.step hr (init_from_down (c := cfgFixed n) rfl (linv_reach rfl hr) hd), rfl, rfl,
    hc⟩

/-- a down state reached after a cycle that had storages, open sessions and retired objects in it -/
example : ∃ s, exec (cfgFixed 2) (boot (cfgFixed 2))
      [.init, .create "a", .enter 0, .retire, .enter 1, .finBegin, .gcIter, .epochIter, .finEnd]
        = some s ∧ s.up = false ∧ s.cycles = 1 ∧ s.slots = [(true, 1), (true, 1)] := by
  exact ⟨_, rfl, rfl, rfl, rfl⟩

/-- While the system is live (up, fin() not begun) — in whichever cycle — an iteration of the
    epoch thread is enabled, increases the epoch by one and changes nothing else: in particular
    the thread keeps running and the state stays live, so this holds again for the next iteration. -/
theorem epoch_progress_enabled (n : Nat) (s : State) (h : Reach (cfgFixed n) s)
    (hup : s.up = true) (hnf : s.finishing = false) :
    step? (cfgFixed n) s .epochIter = some { s with epoch := s.epoch + 1 } ∧
    s.epoch < s.epoch + 1 ∧ s.epochThread = .running := by
  obtain ⟨h1, _, h3, _⟩ := (linv_reach rfl h).live hup hnf
  exact ⟨by simp [step?, h1, h3], Nat.lt_succ_self _, h1⟩

/-- Likewise an iteration of the gc thread is enabled, reclaims what was retired and changes
    nothing else (the thread keeps running). -/
theorem reclaim_enabled_while_running (n : Nat) (s : State) (h : Reach (cfgFixed n) s)
    (hup : s.up = true) (hnf : s.finishing = false) :
    step? (cfgFixed n) s .gcIter = some { s with retired := 0 } ∧ s.gcThread = .running := by
  obtain ⟨_, h2, _, h4⟩ := (linv_reach rfl h).live hup hnf
  exact ⟨by simp [step?, h2, h4], h2⟩

/-- `destroy` is enabled in every live state, empties the storage table and touches nothing else
    (system still up, threads still running, sessions untouched); afterwards `create` works (given
    a free session slot, which `create_storage` needs in any state) and the new storage is the
    only one. -/
theorem destroy_leaves_usable (n : Nat) (s : State) (h : Reach (cfgFixed n) s)
    (hup : s.up = true) (hnf : s.finishing = false) :
    step? (cfgFixed n) s .destroy = some { s with storages := [] } ∧
    ({ s with storages := [] } : State).up = true ∧
    ({ s with storages := [] } : State).epochThread = .running ∧
    ({ s with storages := [] } : State).gcThread = .running ∧
    (∀ nm, s.hasFreeSlot = true →
      step? (cfgFixed n) { s with storages := [] } (.create nm) = some { s with storages := [nm] }) :=
  ⟨by simp [step?, State.live, hup, hnf], hup, ((linv_reach rfl h).live hup hnf).1,
   ((linv_reach rfl h).live hup hnf).2.1, fun nm hfree => by
    simp only [State.hasFreeSlot] at hfree
    simp [step?, State.live, State.hasFreeSlot, hup, hnf, hfree]⟩

/-- non-vacuity: a live state with storages and a free slot -/
example : ∃ s, exec (cfgFixed 2) (boot (cfgFixed 2)) [.init, .create "a", .create "b", .enter 0]
      = some s ∧ s.up = true ∧ s.finishing = false ∧ s.hasFreeSlot = true ∧
        s.storages = ["b", "a"] := ⟨_, rfl, rfl, rfl, rfl, rfl⟩

/-- From every live state — whatever the session slots contain, e.g. all of them open — fin()
    runs to completion: after the flags are set one iteration of each thread makes it exit and
    `finEnd` is enabled; the system is down with one more completed cycle (and by
    `cycle_like_first` the next init() frees every slot). -/
theorem open_sessions_do_not_block_fin (n : Nat) (s : State) (h : Reach (cfgFixed n) s)
    (hup : s.up = true) (hnf : s.finishing = false) :
    exec (cfgFixed n) s [.finBegin, .epochIter, .gcIter, .finEnd] =
      some { s with storages := [], epochEnd := true, gcEnd := true, epochThread := .exited,
                    gcThread := .exited, epoch := s.epoch + 1, retired := 0, up := false,
                    finishing := false, cycles := s.cycles + 1 } := by
  -- both threads are running; `finBegin` sets both flags, so each thread's next iteration is its
  -- last, and then `finEnd` is enabled
  obtain ⟨h1, h2, _⟩ := (linv_reach rfl h).live hup hnf
  simp [exec, step?, State.live, hup, hnf, h1, h2]

/-- and from every state inside fin(), in whatever order the threads have been scheduled so far,
    at most three more events complete it. -/
theorem fin_always_completes (n : Nat) (s : State) (h : Reach (cfgFixed n) s)
    (hf : s.finishing = true) :
    ∃ es s', (∀ e ∈ es, e = .epochIter ∨ e = .gcIter ∨ e = .finEnd) ∧ es.length ≤ 3 ∧
      exec (cfgFixed n) s es = some s' ∧ s'.up = false ∧ s'.cycles = s.cycles + 1 :=
  fin_completes (linv_reach rfl h) hf

/-- non-vacuity: a reachable live state with every slot occupied (second cycle) -/
example : ∃ s, exec (cfgFixed 2) (boot (cfgFixed 2)) (emptyCycle ++ [.init, .enter 1, .enter 0])
      = some s ∧ s.up = true ∧ s.finishing = false ∧ s.hasFreeSlot = false ∧ s.cycles = 1 :=
  ⟨_, rfl, rfl, rfl, rfl, rfl⟩

/-- Two cycles on the unrepaired code: after the second init() a single iteration makes the epoch
    thread exit; the system is up, `epochIter` is no longer enabled (the epoch is frozen), and
    likewise the gc thread: an object retired afterwards is not reclaimed while running. -/
theorem D4_counterexample :
    ∃ s, exec (cfgD4 1) (boot (cfgD4 1))
        [.init, .finBegin, .epochIter, .gcIter, .finEnd, .init, .epochIter, .gcIter, .retire] = some s ∧
      s.up = true ∧ s.finishing = false ∧ s.epochThread = .exited ∧ s.gcThread = .exited ∧
      s.retired = 1 ∧ step? (cfgD4 1) s .epochIter = none ∧ step? (cfgD4 1) s .gcIter = none := by
  exact ⟨_, rfl, rfl, rfl, rfl, rfl, rfl, rfl, rfl⟩

/-- the same trace on the repaired code: both threads are still running. -/
example : ∃ s, exec (cfgFixed 1) (boot (cfgFixed 1))
        [.init, .finBegin, .epochIter, .gcIter, .finEnd, .init, .epochIter, .gcIter, .retire] = some s ∧
      s.epochThread = .running ∧ s.gcThread = .running ∧
      (step? (cfgFixed 1) s .epochIter).isSome = true := ⟨_, rfl, rfl, rfl, rfl⟩

/-- D4 in general: on the unrepaired code, in every cycle after the first both stop flags are set
    throughout, so an iteration of the epoch thread makes it exit. -/
theorem D4_every_later_cycle (n : Nat) (s s' : State) (h : Reach (cfgD4 n) s)
    (hc : 1 ≤ s.cycles) :
    s.epochEnd = true ∧ s.gcEnd = true ∧
    (step? (cfgD4 n) s .epochIter = some s' → s'.epochThread = .exited) := by
  have := dinv_reach rfl h (Or.inr hc)
  refine ⟨this.1, this.2, fun hs => ?_⟩
  simp only [step?, this.1] at hs
  split at hs
  · cases hs; rfl
  · cases hs

end Yak.Props.C16
