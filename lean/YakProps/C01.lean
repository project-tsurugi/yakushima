import YakModel.Proofs.LeafProofs
/-!
# C01 — Point operations (put/get/remove) on a storage are linearizable

Proved on `Proto/Leaf`: one border node, any number of threads, every interleaving of the
single-access steps of `get`, `put` (upsert and unique-insert) and `remove`, including same-key
races, slot reuse after a remove, and weak validation (removes do not bump the version).
The multi-node part (descent, splits, layers) is covered by the scheduler-driven history checks on
the real code and is not claimed as a theorem.
-/
namespace Yak.Props.C01
open Yak.Proto.Leaf

/-- every reachable state's history is linearizable w.r.t. the map specification:
    a get returns OK with exactly the value of the latest preceding put on that key or
    WARN_NOT_EXIST, remove returns OK iff the key was present, unique-insert returns
    WARN_UNIQUE_RESTRICTION iff it was — in an order consistent with real-time precedence. -/
theorem leaf_linearizable (s : State) (h : Reach cfgFixed s) : Linearizable s :=
  Yak.Proto.Leaf.leaf_linearizable s h

/-- an OK get never yields the cleared (null) value. -/
theorem leaf_get_nonnull (s : State) (h : Reach cfgFixed s) :
    ∀ t k i j, (t, OpKind.get k, Res.ok none, i, j) ∉ s.hist :=
  Yak.Proto.Leaf.leaf_get_nonnull s h

/-- writers exclude each other: at most one thread is between lock and unlock. -/
theorem writers_serialized (s : State) (h : Reach cfgFixed s) :
    ∀ t1 t2, Yak.Proto.Leaf.holdsLock s t1 → Yak.Proto.Leaf.holdsLock s t2 → t1 = t2 :=
  Yak.Proto.Leaf.writers_serialized s h

/-- the unrepaired reader (no re-fetch on a cleared cell): a concrete trace (a preloading put, then
    a get racing with a remove) whose history holds a get answered OK with the null value, an
    answer the map specification never gives. -/
theorem leaf_D1_counterexample :
    ∃ s, Reach cfgD1 s ∧ ∃ t k i j, (t, OpKind.get k, Res.ok none, i, j) ∈ s.hist :=
  Yak.Proto.Leaf.leaf_D1_counterexample

end Yak.Props.C01
