import YakModel.Proofs.CursorProofs
/-!
# C10 — The cursor API enumerates the scan interval in both directions (sequential sentence)

Statements are about the `content t` of an arbitrary `Tree`, under the hypothesis that it is
strictly ascending by key — which holds for every well-formed tree (C08 `content_sorted`) — so they
hold for every such tree, every interval, both directions and every pause point.
-/
namespace Yak.Props.C10
open Yak Yak.Tree

/-- the cursor rejects exactly the ranges scan's range check rejects. -/
theorem open_rejects_iff (lk : Key) (le : EP) (rk : Key) (re : EP) (r2l : Bool) :
    (Cursor.open? lk le rk re r2l).isNone = true ↔ checkEmptyRange lk le rk re = false :=
  Yak.Tree.Cursor.open_rejects_iff lk le rk re r2l

/-- the entries of the cursor's interval in key order (left INF already normalised by `open?`) -/
def intervalOf (c : Cursor) (t : Tree) : List (Key × Val) :=
  (content t).filter (fun kv => inInterval c.lk c.le c.rk c.re kv.1)

/-- draining a fresh cursor yields exactly the interval's entries: ascending for left-to-right,
    descending for right-to-left, each with its value and full key. -/
theorem drain_enumerates (c : Cursor) (t : Tree) (hfresh : c.last = none)
    (hs : (content t).Pairwise (fun a b => lexLt a.1 b.1 = true)) (n : Nat)
    (hn : (intervalOf c t).length ≤ n) :
    c.drain t n = (if c.r2l then (intervalOf c t).reverse else intervalOf c t) :=
  Yak.Tree.Cursor.drain_enumerates c t hfresh hs n hn

/-- pausing anywhere: taking `i` entries, stopping, and resuming later yields the same overall
    sequence as draining at once (given no modification in between). The proof uses neither
    `hfresh` nor `hs`: it holds from any cursor state and for any content. -/
theorem pause_anywhere (c : Cursor) (t : Tree) (hfresh : c.last = none)
    (hs : (content t).Pairwise (fun a b => lexLt a.1 b.1 = true)) (i n : Nat) :
    c.drain t (i + n) = c.drain t i ++ ((List.range i).foldl (fun c' _ => (c'.next t).2) c).drain t n :=
  Yak.Tree.Cursor.pause_anywhere c t hfresh hs i n

/-- each step returns a key strictly beyond the previous one, inside the interval (monotone). -/
theorem next_monotone (c : Cursor) (t : Tree) (kv : Key × Val) (c' : Cursor)
    (h : c.next t = (some kv, c')) :
    inInterval c.lk c.le c.rk c.re kv.1 = true ∧ kv ∈ content t ∧ c'.last = some kv.1 ∧
    (∀ k, c.last = some k → if c.r2l then lexLt kv.1 k = true else lexLt k kv.1 = true) :=
  Yak.Tree.Cursor.next_monotone c t kv c' h

end Yak.Props.C10
