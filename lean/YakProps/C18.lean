import YakModel.Proofs.KeyOrderProofs
/-!
# C18 — All internal key comparisons agree with bytewise lexicographic order
-/
namespace Yak.Props.C18
open Yak

/-- `lexLt`, the specification order on byte strings, is irreflexive. -/
theorem lexLt_irrefl (a : Key) : lexLt a a = false := Yak.lexLt_irrefl a
/-- `lexLt` is transitive. -/
theorem lexLt_trans (a b c : Key) : lexLt a b = true → lexLt b c = true → lexLt a c = true :=
  Yak.lexLt_trans a b c
/-- `lexLt` is total: with the two above, a strict total order on byte strings. -/
theorem lexLt_total (a b : Key) : lexLt a b = true ∨ a = b ∨ lexLt b a = true := Yak.lexLt_total a b

/-- `key_tuple::operator<` (with its `memcmp` over `min(len)` bytes of the object representation,
    9 bytes when both are links) is the specification order on well-formed tuples. -/
theorem operatorLt_eq (a b : KT) (ha : a.WF) (hb : b.WF) : KT.lt a b = KT.ltSpec a b :=
  Yak.KT.lt_eq_ltSpec a b ha hb

/-- the specification order on tuples is irreflexive. -/
theorem ktLt_irrefl (a : KT) : KT.ltSpec a a = false := Yak.KT.ltSpec_irrefl a
/-- the specification order on tuples is transitive (no well-formedness needed). -/
theorem ktLt_trans (a b c : KT) : KT.ltSpec a b = true → KT.ltSpec b c = true → KT.ltSpec a c = true :=
  Yak.KT.ltSpec_trans a b c
/-- the specification order is total on well-formed tuples: two of them that are neither below the
    other are the same slice and length. -/
theorem ktLt_total (a b : KT) (ha : a.WF) (hb : b.WF) :
    KT.ltSpec a b = true ∨ a = b ∨ KT.ltSpec b a = true := Yak.KT.ltSpec_total a b ha hb

/-- leaf lookup test: `hit` iff same tuple (links: same slice), `stop` iff the search key is
    smaller, `next` iff greater. -/
theorem leafProbe_eq (k t : KT) (hk : k.WF) (ht : t.WF) :
    (leafProbe k t = .hit ↔ (k = t)) ∧
    (leafProbe k t = .stop ↔ KT.ltSpec k t = true) ∧
    (leafProbe k t = .next ↔ KT.ltSpec t k = true) := Yak.leafProbe_eq k t hk ht

/-- rank computation in a leaf = number of stored tuples smaller than the key
    (for a sorted leaf that does not contain the key). -/
theorem rankIfInsert_eq (k : KT) (ents : List KT) (hk : k.WF) (he : ∀ t ∈ ents, t.WF)
    (hs : ents.Pairwise (fun a b => KT.ltSpec a b = true)) (hn : k ∉ ents) :
    rankIfInsert k ents = (ents.filter (fun t => KT.ltSpec t k)).length :=
  Yak.rankIfInsert_eq k ents hk he hs hn

/-- interior routing goes left of a separator iff the key is smaller than it. -/
theorem route_eq (k t : KT) (hk : k.WF) (ht : t.WF) : routeLeft k t = KT.ltSpec k t :=
  Yak.routeLeft_eq k t hk ht

/-- interior insertion / interior split side test. -/
theorem interiorLess_eq (k t : KT) (hk : k.WF) (ht : t.WF) : interiorLess k t = KT.ltSpec k t :=
  Yak.interiorLess_eq k t hk ht

/-- border split side decision: for a key distinct from `first`, "lower" iff key < first; the
    fourth disjunct (rank) never changes the decision when `rank` is the key's true rank. -/
theorem borderSplitSide_eq (k first : KT) (rank remaining : Nat) (hk : k.WF) (hf : first.WF)
    (hne : k ≠ first) (hrank : rank < remaining → KT.ltSpec k first = true) :
    borderSplitLower k first rank remaining = KT.ltSpec k first :=
  Yak.borderSplitLower_eq k first rank remaining hk hf hne hrank

/-- re-sorting of a leaf yields the slots in strictly increasing key order. -/
theorem rearrange_sorted (ents : List KT) (he : ∀ t ∈ ents, t.WF) (hd : ents.Nodup) :
    (rearrangeOrder ents).Perm (List.range ents.length) ∧
    ((rearrangeOrder ents).map (fun i => ents[i]!)).Pairwise (fun a b => KT.ltSpec a b = true) :=
  Yak.rearrange_sorted ents he hd

/-- keys are ordered as unsigned byte strings, independent of where the 8-byte slice boundaries
    fall and of zero bytes: the layered (tuple by tuple) comparison equals `lexLt` on full keys. -/
theorem layered_iff_lex (a b : Key) : layeredLt a b = lexLt a b := Yak.layeredLt_eq_lexLt a b

/-- `KT.ofKey` produces well-formed tuples. -/
theorem ofKey_wf (k : Key) : (KT.ofKey k).WF := Yak.KT.ofKey_wf k

-- non-vacuity / the interesting corner: equal padded slices, different lengths, zero bytes
example : KT.lt (KT.ofKey [0x61]) (KT.ofKey [0x61, 0x00]) = true ∧
          KT.lt (KT.ofKey [0x61, 0, 0, 0, 0, 0, 0, 0]) (KT.ofKey [0x61, 0, 0, 0, 0, 0, 0, 0, 0]) = true := by
  decide

end Yak.Props.C18
