import YakModel.Proto.NodeSet
import YakModel.Proofs.NodeSetC04
import YakModel.Proofs.NodeSetWitness
import YakModel.Proofs.AbsorbProofs
/-!
# C04 — Concurrent scans are per-key consistent and never lose a stable key

Property theorems on the `NodeSet` model (`YakModel/Proto/NodeSet.lean`: a chain of border nodes,
any number of inserting writers including splits, any number of scanners, every interleaving,
every capacity); proofs in `YakModel/Proofs/NodeSetC04.lean`. The model has no removes and no
value updates, so a key that is stored when the scan is invoked is "present with an unchanged
binding for the whole duration of the scan", and a key that is not stored at that instant "was
absent at some instant of the scan". The scan is identified by its `sStart t a b` step
`s0 → s1`; `ReachFrom c s1 s` is any continuation, `s.sc t = .fin a b keys nodes` its return.
-/
namespace Yak.Props.C04
open Yak.Proto.NodeSet

/-- the result is strictly ascending and inside the requested interval. -/
theorem scan_sorted_in_interval (c : Cfg) (s : State) (h : Reach c s) (t a b : Nat)
    (keys : List Nat) (nodes : List NodeRec) (hfin : s.sc t = .fin a b keys nodes) :
    keys.Pairwise (· < ·) ∧ ∀ k ∈ keys, a ≤ k ∧ k ≤ b :=
  Yak.Proto.NodeSet.scan_sorted_in_interval h hfin

/-- every reported key is stored in the state in which the scan has returned: keys are never
    removed, so it has been stored ever since it was read. -/
theorem scan_result_was_present (c : Cfg) (s : State) (h : Reach c s) (t a b : Nat)
    (keys : List Nat) (nodes : List NodeRec) (hfin : s.sc t = .fin a b keys nodes) :
    ∀ k ∈ keys, Present s k :=
  Yak.Proto.NodeSet.scan_result_was_present h hfin

/-- no stable key is lost: every key of the interval that was stored when the scan was invoked is
    in its result — whatever inserts, splits, retries and restarts happen meanwhile, and without
    any staleness proviso. -/
theorem scan_keeps_stable_keys (c : Cfg) (s0 s1 s : State) (h0 : Reach c s0) (t a b : Nat)
    (hstart : step? c s0 (.sStart t a b) = some s1) (hr : ReachFrom c s1 s)
    (keys : List Nat) (nodes : List NodeRec) (hfin : s.sc t = .fin a b keys nodes) (k : Nat)
    (hp : Present s0 k) (ha : a ≤ k) (hb : k ≤ b) : k ∈ keys :=
  Yak.Proto.NodeSet.scan_keeps_stable_keys h0 hstart hr hfin hp ha hb

/-- every key of the interval reported absent was absent at an instant of the scan, namely at
    its invocation. -/
theorem scan_absent_was_absent (c : Cfg) (s0 s1 s : State) (h0 : Reach c s0) (t a b : Nat)
    (hstart : step? c s0 (.sStart t a b) = some s1) (hr : ReachFrom c s1 s)
    (keys : List Nat) (nodes : List NodeRec) (hfin : s.sc t = .fin a b keys nodes) (k : Nat)
    (ha : a ≤ k) (hb : k ≤ b) (hk : k ∉ keys) : ¬ Present s0 k :=
  fun hp => hk (Yak.Proto.NodeSet.scan_keeps_stable_keys h0 hstart hr hfin hp ha hb)

/-- the hypotheses of `scan_keeps_stable_keys` / `scan_absent_was_absent` are satisfiable, by the
    run `Witness.prefixRun`, `sStart 0 1 6`, `Witness.overtakenRun` at capacity 3: the stable keys
    1, 3, 5 are returned although the scan was overtaken by a split and restarted; 4 (inserted
    during the scan) happens to be returned too; 6 is stored at the end, is not in the result, and
    indeed was not stored at the invocation. -/
theorem stable_keys_witness : ∃ s0 s1 s, Reach ⟨3⟩ s0 ∧ step? ⟨3⟩ s0 (.sStart 0 1 6) = some s1 ∧
    ReachFrom ⟨3⟩ s1 s ∧ s.sc 0 = .fin 1 6 [1, 3, 4, 5] [(0, 4, 1), (1, 4, 1)] ∧
    Present s0 1 ∧ Present s0 3 ∧ Present s0 5 ∧ ¬ Present s0 6 ∧ Present s 6 := by
  -- the runs and their states are terms of `YakModel/Proofs/NodeSetWitness.lean`; `exec` over each
  -- run evaluates to its last state
  refine ⟨Witness.pre9, Witness.ovt10, Witness.ovt28, reach_exec Reach.init _ Witness.pre_exec,
    Witness.ovt10_step, reachFrom_exec _ Witness.ovt_exec, rfl, ?_, ?_, ?_, ?_, ?_⟩ <;>
  · unfold Present
    decide

/-! ### Removes that empty and unlink leaves (`Proto/Absorb`)

`NodeSet` has no removes. `Proto/Absorb` is the complementary model: a chain of fenced leaves under
inserts, splits and removes that **unlink an emptied leaf, whose key range is absorbed by a
neighbour** (the parent drops one child and one separator; separators are never recomputed), with
scanners whose visit of a leaf is one validated read. `Cfg.fix` selects the repaired `scan_border`
(commit "fix: a forward scan skips keys that are not greater than what earlier nodes contributed"):
entries `≤` the last key collected before the current leaf are skipped. With the repair the result
is strictly ascending and no stable key is lost; without it `D13_counterexample` is the execution
found on the real code (`corpus/C04/d13_absorbed_range.json`: `k03 k02y k11`). -/

/-- with the repair, every partial and final result is strictly ascending and inside the interval,
    whatever inserts, splits, removes and unlinks (either absorb direction) interleave. -/
theorem absorb_scan_sorted (c : Yak.Proto.Absorb.Cfg) (hf : c.fix = true) (s : Yak.Proto.Absorb.State)
    (h : Yak.Proto.Absorb.Reach c s) (t a b : Nat) (res : List Nat) (cur : Nat)
    (hs : s.sc t = Yak.Proto.Absorb.SPc.at a b res cur ∨ s.sc t = Yak.Proto.Absorb.SPc.fin a b res) :
    res.Pairwise (· < ·) ∧ ∀ r ∈ res, a ≤ r ∧ r ≤ b := Yak.Proto.Absorb.scan_sorted_fixed hf h hs

/-- the repair loses nothing: a key of the interval that is stored when the scan returns and was
    neither inserted nor removed since the scan was invoked (so it was stored throughout) is in
    the result. -/
theorem absorb_stable_key_returned (c : Yak.Proto.Absorb.Cfg) (hf : c.fix = true)
    (s : Yak.Proto.Absorb.State) (h : Yak.Proto.Absorb.Reach c s)
    (t a b : Nat) (res : List Nat) (hs : s.sc t = Yak.Proto.Absorb.SPc.fin a b res) (k : Nat)
    (ha : a ≤ k) (hb : k ≤ b) (hk : Yak.Proto.Absorb.Stable s t k) : k ∈ res :=
  Yak.Proto.Absorb.stable_key_returned_fixed hf h hs ha hb hk

/-- every reported key was stored at some moment of the scan (any cfg). -/
theorem absorb_result_was_present (c : Yak.Proto.Absorb.Cfg) (hist : List Yak.Proto.Absorb.State)
    (s : Yak.Proto.Absorb.State) (h : Yak.Proto.Absorb.Hist c hist s)
    (t a b : Nat) (res : List Nat) (hs : Yak.Proto.Absorb.Holds s t a b res) :
    ∀ r ∈ res, ∃ s1 ∈ hist, (∃ res1 cur1, s1.sc t = Yak.Proto.Absorb.SPc.at a b res1 cur1) ∧
      Yak.Proto.Absorb.Present s1 r :=
  Yak.Proto.Absorb.scan_result_was_present h hs

/-- D13 on the unrepaired scan: the left leaf is emptied and unlinked behind the scanner, its right
    neighbour absorbs the range and receives a smaller key: the result is `[3, 2, 11]`. -/
theorem D13_counterexample :
    Yak.Proto.Absorb.scanOutcome {fix := false} Yak.Proto.Absorb.D13_evs 0 =
      some (Yak.Proto.Absorb.SPc.fin 0 100 [3, 2, 11]) ∧ ¬ [3, 2, 11].Pairwise (· < ·) :=
  ⟨Yak.Proto.Absorb.D13_counterexample, Yak.Proto.Absorb.D13_not_sorted⟩

/-- the same schedule under the repair: the repaired model accepts the absorbing scenario, so
    `absorb_scan_sorted` and `absorb_stable_key_returned` speak of it, and the scan returns
    `[3, 11]`. -/
theorem D13_fixed_run :
    Yak.Proto.Absorb.scanOutcome {fix := true} Yak.Proto.Absorb.D13_evs 0 =
      some (Yak.Proto.Absorb.SPc.fin 0 100 [3, 11]) :=
  Yak.Proto.Absorb.D13_fixed_run

end Yak.Props.C04
